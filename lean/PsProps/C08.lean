/-
  C08 — Results are independent of sieve size, threads, CPU dispatch and cache topology.
-/
import PsModel.Config
import PsProofs.Segments
import PsProps.C03
import PsProps.C04
import PsProofs.Locks

namespace Ps.Props
open Ps Ps.Spec

/-- **C08 (clamp)** set_sieve_size / setSieveSize store a value in [16, 8192] for every int argument -/
theorem C08_setSieveSize_clamped (size : Int) : 16 ≤ setSieveSize size ∧ setSieveSize size ≤ 8192 := by
  unfold setSieveSize; split <;> (try split) <;> omega

/-- **C08 (clamp)** set_num_threads / setNumThreads store a value in [1, maxThreads] (maxThreads ≥ 1) -/
theorem C08_setNumThreads_clamped (threads maxThreads : Int) (h : 1 ≤ maxThreads) :
    1 ≤ setNumThreads threads maxThreads ∧ setNumThreads threads maxThreads ≤ maxThreads := by
  unfold setNumThreads; split <;> (try split) <;> omega

/-- **C08 (cache topology)** for EVERY cache description the OS may report — missing (0), tiny, huge
    or garbage values, any sharing counts — get_sieve_size() returns a value in [16, 8192] KiB
    (the `maxSize - 1` underflow for a zero quotient included); a user setting is returned as is. -/
theorem C08_getSieveSize_range (c : CpuDesc) : 16 ≤ getSieveSize 0 c ∧ getSieveSize 0 c ≤ 8192 := by
  unfold getSieveSize
  simp only [ne_eq, not_true_eq_false, if_false]
  split
  · split <;> exact inBetween_range (by omega) _
  · split <;> exact inBetween_range (by omega) _

theorem C08_getSieveSize_user (user : Nat) (c : CpuDesc) (h : user ≠ 0) : getSieveSize user c = user := by
  unfold getSieveSize; simp [h]

/-- Erat's L1 size is always a plausible value: the reported one only if 4 KiB ≤ l1 ≤ 1 GiB -/
theorem C08_l1_range (c : CpuDesc) : 4096 ≤ getL1CacheSize c ∧ getL1CacheSize c ≤ 1073741824 := by
  unfold getL1CacheSize CpuDesc.hasL1
  split
  · rename_i h; simp at h; omega
  · decide

/-- **C08 (segment geometry)** for every L1 size, user sieve size, float factors and interval, whenever
    the sieve is initialised its size in bytes is a positive multiple of 8 (the counting and
    decoding loops read 64-bit words) unless EratBig is used, in which case it is a power of two. -/
theorem C08_sieveSize_mod8_or_pow2 (cfg : EratCfg) (start stop kib : Nat)
    (h : ¬ (start > stop ∨ start ≥ umax)) :
    (EratGeom.init cfg start stop kib).sieveSize % 8 = 0 ∨
    ∃ k, (EratGeom.init cfg start stop kib).sieveSize = 2 ^ k := by
  unfold EratGeom.init
  rw [if_neg h]
  dsimp only
  split
  · exact Or.inl (roundUp8_mod _)
  · exact sizes_mod8_or_pow2 cfg stop kib

/-- **C08 (threads)** counts do not depend on the number of threads or the piece length: two runs
    with different settings give the same counter (both equal the exact count — C04/C05). -/
theorem C08_counts_independent_of_threads {isP : Nat → Bool} (hP : IsPrimeOK isP)
    (start stop flags nt₁ md₁ nt₂ md₂ i : Nat) (hi : i < 6) (hf : isFlag flags (2 ^ i) = true)
    (hs : stop < umax)
    (h₁ : getThreadDistance start stop (idealNumThreads start stop nt₁ md₁) md₁ ≤ umax)
    (h₂ : getThreadDistance start stop (idealNumThreads start stop nt₂ md₂) md₂ ≤ umax) :
    (parallelCounts isP start stop flags nt₁ md₁).getD i 0 =
      (parallelCounts isP start stop flags nt₂ md₂).getD i 0 := by
  rw [parallelCounts_spec hP start stop flags nt₁ md₁ i hi hf (Nat.le_of_lt hs) (fun _ _ => Or.inl hs),
    parallelCounts_spec hP start stop flags nt₂ md₂ i hi hf (Nat.le_of_lt hs) (fun _ _ => Or.inl hs)]

/-- **C08 (iterator)** iterator results do not depend on the generator's block lengths (which derive
    from the sieve size), the stop hints or the floating-point sub-expressions: this is
    `C03_hint_independent`, restated. -/
theorem C08_iterator_independent (env₁ env₂ : Env) (h₁ : EnvOK env₁) (h₂ : EnvOK env₂)
    (s hint₁ hint₂ : Nat) (hs : s ≤ umax) (ops₁ ops₂ : List Op)
    (hw₁ : ∀ op ∈ ops₁, Op.WF op) (hw₂ : ∀ op ∈ ops₂, Op.WF op)
    (heq : ops₁.map eraseHints = ops₂.map eraseHints) :
    Iter.run env₁ (Iter.mk' s hint₁) ops₁ = Iter.run env₂ (Iter.mk' s hint₂) ops₂ :=
  C03_hint_independent env₁ env₂ h₁ h₂ s hint₁ hint₂ hs ops₁ ops₂ hw₁ hw₂ heq

/-- non-vacuity: a machine reporting no caches at all, and one reporting L2 = 0 sharing garbage -/
example : getSieveSize 0 ⟨0, 0, 0, 0⟩ = 256 ∧ getSieveSize 0 ⟨32768, 4096, 8, 0⟩ = 512 := by decide

/-- **C08 (model sources)** regenerated on every run: digests of the (comment-, hook- and whitespace-normalised) bodies of the
    functions that the hand-written model behind the theorems of this file mirrors.  An edit to one of
    them — harmless or not — breaks this obligation; the check then searches for a failing input
    with the correspondence streams (DESIGN.md section 2, step 5). -/
theorem C08_model_sources :
    Gen.modelSources.filter (fun e => e.1 ∈ ["api.get_sieve_size", "api.set_sieve_size", "api.set_num_threads", "PrimeGenerator_default.fillNextPrimes", "PrimeGenerator_default.fillPrevPrimes", "PrimeGenerator_avx512.fillNextPrimes", "PrimeGenerator_avx512.fillPrevPrimes", "Erat.initAlgorithms"]) =
     [("api.get_sieve_size", "4826eb7aec7e5c8e8bfb"),
      ("api.set_sieve_size", "541cf8dd390836f5d9de"),
      ("api.set_num_threads", "eaa404d0c1acb5afdfb3"),
      ("PrimeGenerator_default.fillNextPrimes", "0a69dc0049d71ebe96df"),
      ("PrimeGenerator_default.fillPrevPrimes", "0272d4b8fe4d0a8ef7e2"),
      ("PrimeGenerator_avx512.fillNextPrimes", "7df9e1d9dff83718d8d2"),
      ("PrimeGenerator_avx512.fillPrevPrimes", "37502b8750d9600d675d"),
      ("Erat.initAlgorithms", "f1a7ebe09c59958b8c39")] :=
  Gen.modelSources_filter (by simp only [Gen.modelSources, sublist_step]) rfl

end Ps.Props
