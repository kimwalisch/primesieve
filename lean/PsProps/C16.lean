/-
  C16 — Command line: same answers as the library; numeric arguments exact or rejected.
-/
import PsProofs.Calc
import PsProofs.Cli
import PsModel.Generated.Cli
import PsProofs.Locks

namespace Ps.Props
open Ps Ps.Calc Ps.Cli

deriving instance DecidableEq for Except

/-- **C16 (numbers are exact or rejected)** whenever the parser instantiated at uint64_t (the type used
    for START, STOP, n and --dist) accepts a string, the SAME parser run over unbounded integers
    (`Arith.exact`: no overflow anywhere) accepts it with the same value, and that value lies in
    [0, 2^64).  Contrapositive: an expression whose exact value — or any intermediate result of
    its evaluation — leaves [0, 2^64) is never silently reinterpreted; it is rejected. -/
theorem C16_calc_exact_or_rejected (s : String) (v : Int) (h : evalU64 s = .ok v) :
    eval (Arith.exact u64) s = .ok v ∧ 0 ≤ v ∧ v < 2 ^ 64 := by
  obtain ⟨he, h0, hm⟩ := eval_sim sim_u64 s v h
  exact ⟨he, h0, Int.lt_of_le_of_lt hm (by decide)⟩

/-- **C16 (checked arithmetic)** at every integer type T with min ≤ 0 ≤ max (uint64_t, int, int64_t) the
    overflow tests of checkedAdd / checkedSub / checkedMul, as written in calculator.hpp, return the
    exact sum / difference / product when it fits T and report overflow otherwise. -/
theorem C16_checked_arith (t : Ty) (hmin : t.min ≤ 0) (hmax : 0 ≤ t.max) (x y : Int) (hx : t.InR x) (hy : t.InR y) :
    checkedAdd t x y = (if t.InR (x + y) then .ok (x + y) else .error .overflow) ∧
    checkedSub t x y = (if t.InR (x - y) then .ok (x - y) else .error .overflow) ∧
    checkedMul t x y = (if t.InR (x * y) then .ok (x * y) else .error .overflow) :=
  ⟨checkedAdd_spec t x y hx, checkedSub_spec t x y hx, checkedMul_spec t hmin hmax x y⟩

/-- **C16 (interval in range, no wrap)** for EVERY argument vector: the interval the program sieves and
    the (n, start) it passes to nth_prime lie below 2^64, and n·20 fits int64. -/
theorem C16_arguments_in_range (argv : List String) :
    (∀ a b f s t q tm, mainAction argv = .sieve a b f s t q tm → a < 2 ^ 64 ∧ b < 2 ^ 64) ∧
    (∀ n st q tm, mainAction argv = .nth n st q tm → n * 20 ≤ 9223372036854775807 ∧ st < 2 ^ 64) := by
  have h := mainAction_inRange argv
  refine ⟨fun a b f s t q tm e => ?_, fun n st q tm e => ?_⟩ <;>
    · rw [e] at h; have := h.1; have := h.2; omega

/-- **C16 (--dist)** an accepted `-d DIST` appends exactly START + DIST, where DIST is the exact value of
    the expression and START + DIST ≤ 2^64 - 1 (no wrap-around); it changes nothing else that
    selects the answer. -/
theorem C16_distance_exact (opts opts' : Opts) (o : Opt) (hn : NumbersOK opts)
    (h : optionDistance opts o = .ok opts') :
    ∃ v : Int, eval (Arith.exact u64) o.val = .ok v ∧ 0 ≤ v ∧
      opts'.numbers = opts.numbers ++ [opts.numbers.headD 0 + v.toNat] ∧
      opts.numbers.headD 0 + v.toNat ≤ 18446744073709551615 ∧
      opts'.flags = opts.flags ∧ opts'.option = opts.option :=
  (optionDistance_ok opts o hn opts' h).2

/-- **C16 (negative numbers)** a bare argument starting with '-' that is not an option spelling
    ("-5", "-1e3", "-(3)") is rejected -/
theorem C16_negative_number_rejected (argv : Array String) (i : Nat)
    (hne : (argv.getD i "") ≠ "") (hl : lookup (argv.getD i "") = none)
    (hopt : isOption (argv.getD i "") = false) (hneg : (argv.getD i "").toList.getD 0 ' ' = '-') :
    ∃ m, parseOption argv i = .error m := by
  have he : (argv.getD i "").isEmpty = false := by simpa [String.isEmpty_iff] using hne
  unfold parseOption
  simp only [he, Bool.false_eq_true, if_false, hl, hopt, hneg, if_true]
  split <;> exact ⟨_, rfl⟩

/-- **C16 (conflicting options)** a second main option (-n, -v, -h, --cpu-info, -S, -R, …) is rejected -/
theorem C16_conflicting_options (opts : Opts) (id str : String) (h : opts.optionStr ≠ "") :
    ∃ m, setMainOption opts id str = .error m :=
  ⟨_, if_pos (by simpa [String.isEmpty_iff] using h)⟩

/-- the operator names of calculator.hpp -/
def opOfName : String → Op
  | "OPERATOR_BITWISE_OR" => .bor | "OPERATOR_BITWISE_AND" => .band | "OPERATOR_BITWISE_SHL" => .shl
  | "OPERATOR_BITWISE_SHR" => .shr | "OPERATOR_ADDITION" => .add | "OPERATOR_SUBTRACTION" => .sub
  | "OPERATOR_MULTIPLICATION" => .mul | "OPERATOR_DIVISION" => .div | "OPERATOR_MODULO" => .mod
  | "OPERATOR_POWER" => .pow | "OPERATOR_EXPONENT" => .exp | _ => .null

/-- the string on which a table row's operator is recognised: `<` and `>` must be doubled -/
def rowInput (c : String) : String := if c = "<" ∨ c = ">" then c ++ c else c

/-- **C16 (operator table)** regenerated from calculator.hpp on every run: for every `case` of parseOp the
    model's parseOp recognises the same operator with the same precedence and associativity, and
    consumes the whole token; the table has exactly the documented precedences. -/
theorem C16_operator_table :
    (Gen.calcOps.all (fun row =>
      let inp := (rowInput row.1).toList.toArray
      match parseOp inp 0 with
      | .ok (o, j) => o.op == opOfName row.2.1 && o.prec == row.2.2.1 && o.left == row.2.2.2.1 && j == inp.size
      | .error _ => false)) = true ∧
    Gen.calcOps.map (fun r => (r.1, r.2.2.1, r.2.2.2.1)) =
      [("|", 4, true), ("&", 6, true), ("<", 9, true), (">", 9, true), ("+", 10, true), ("-", 10, true),
       ("/", 20, true), ("%", 20, true), ("*", 20, true), ("^", 30, false), ("e", 40, false), ("E", 40, false),
       ("**", 30, false)] ∧
    Gen.calcOpsDefault = [("OPERATOR_NULL", 0, true)] := ⟨by decide +kernel, rfl, rfl⟩

/-- **C16 (source lock)** the hand-written model of the checked arithmetic, literal parsing and `calculate`
    was written for exactly this source text (regenerated, whitespace-normalised, on every run) -/
theorem C16_calculator_source :
    Gen.calcSwitch = [("OPERATOR_BITWISE_OR", "v1 | v2"), ("OPERATOR_BITWISE_XOR", "v1 ^ v2"), ("OPERATOR_BITWISE_AND", "v1 & v2"),
      ("OPERATOR_BITWISE_SHL", "checkedShift(v1, v2, true)"), ("OPERATOR_BITWISE_SHR", "checkedShift(v1, v2, false)"),
      ("OPERATOR_ADDITION", "checkedAdd(v1, v2)"), ("OPERATOR_SUBTRACTION", "checkedSub(v1, v2)"),
      ("OPERATOR_MULTIPLICATION", "checkedMul(v1, v2)"), ("OPERATOR_DIVISION", "checkedDiv(v1, checkZero(v2))"),
      ("OPERATOR_MODULO", "checkedMod(v1, checkZero(v2))"), ("OPERATOR_POWER", "pow(v1, v2)"),
      ("OPERATOR_EXPONENT", "checkedMul(v1, pow(10, v2))")] ∧
    Gen.calcBodies = [
      ("checkedAdd", "if (y > 0 ? x > std::numeric_limits<T>::max() - y : x < std::numeric_limits<T>::min() - y) overflow(); return x + y;"),
      ("checkedSub", "if (y > 0 ? x < std::numeric_limits<T>::min() + y : x > std::numeric_limits<T>::max() + y) overflow(); return x - y;"),
      ("checkedMul", "T max = std::numeric_limits<T>::max(); T min = std::numeric_limits<T>::min(); if (x == 0 || y == 0) return 0; if (x > 0 ? (y > 0 ? x > max / y : y < min / x) : (y > 0 ? x < min / y : x < max / y)) overflow(); return x * y;"),
      ("checkedDiv", "if (y < 0 && y + 1 == 0 && x == std::numeric_limits<T>::min()) overflow(); return x / y;"),
      ("checkedMod", "if (y < 0 && y + 1 == 0) return 0; return x % y;"),
      ("checkedShift", "if (n < 0 || n >= (T) std::numeric_limits<T>::digits) overflow(); if (!left) return x >> n; if (x < 0 || x > (std::numeric_limits<T>::max() >> n)) overflow(); return x << n;"),
      ("pow", "T res = 1; while (n > 0) { if (n % 2 != 0) { res = checkedMul(res, x); n -= 1; } n /= 2; if (n > 0) x = checkedMul(x, x); } return res;"),
      ("parseDecimal", "T value = 0; for (T d; (d = getInteger()) <= 9; index_++) value = checkedAdd(checkedMul(value, 10), d); return value;"),
      ("parseHex", "index_ = index_ + 2; T value = 0; for (T h; (h = getInteger()) <= 0xf; index_++) value = checkedAdd(checkedMul(value, 0x10), h); return value;"),
      ("isHex", "if (index_ + 2 < expr_.size()) { char x = expr_[index_ + 1]; char h = expr_[index_ + 2]; return (std::tolower(x) == 'x' && toInteger(h) <= 0xf); } return false;"),
      ("toInteger", "if (c >= '0' && c <= '9') return c -'0'; if (c >= 'a' && c <= 'f') return c -'a' + 0xa; if (c >= 'A' && c <= 'F') return c -'A' + 0xa; T noDigit = 0xf + 1; return noDigit;")] :=
  ⟨rfl, rfl⟩

/-- **C16 (option grammar)** regenerated from CmdOptions.cpp / main.cpp on every run: which spellings exist and
    whether they take a value, which handler each option id runs, which element type every numeric
    argument is evaluated at (START, STOP, n and --dist at uint64_t, never a signed type), the two
    overflow guards, and main()'s dispatch. -/
theorem C16_option_grammar :
    Gen.optionMap.map (fun e => (e.1, e.2.2)) =
      [("-c", 2), ("--count", 2), ("--cpu-info", 0), ("-h", 0), ("--help", 0), ("-n", 0), ("--nthprime", 0),
       ("--nth-prime", 0), ("--no-status", 0), ("--number", 1), ("-d", 1), ("--dist", 1), ("-p", 2), ("--print", 2),
       ("-q", 0), ("--quiet", 0), ("-R", 0), ("--RiemannR", 0), ("--RiemannR-inverse", 0), ("-s", 1), ("--size", 1),
       ("-S", 2), ("--stress-test", 2), ("--test", 0), ("-t", 1), ("--threads", 1), ("--time", 0), ("--timeout", 1),
       ("-v", 0), ("--version", 0)] ∧
    (∀ e ∈ Gen.optionMap, ∀ e' ∈ Gen.optionMap, e.1 = e'.1 → e = e') ∧
    Gen.optionSwitch = [("OPTION_COUNT", "opts.optionCount(opt)"), ("OPTION_DISTANCE", "opts.optionDistance(opt)"),
      ("OPTION_PRINT", "opts.optionPrint(opt)"), ("OPTION_STRESS_TEST", "opts.optionStressTest(opt)"),
      ("OPTION_TIMEOUT", "opts.optionTimeout(opt)"), ("OPTION_SIZE", "opts.sieveSize = opt.getValue<int>()"),
      ("OPTION_THREADS", "opts.threads = opt.getValue<int>()"), ("OPTION_QUIET", "opts.quiet = true"),
      ("OPTION_NO_STATUS", "opts.status = false"), ("OPTION_TIME", "opts.time = true"),
      ("OPTION_NUMBER", "opts.numbers.push_back(opt.getValue<uint64_t>())")] ∧
    Gen.optionSwitchDefault = ["opts.setMainOption(optionID, opt.str)"] ∧
    (Gen.getValueSites.filter (fun s => s.1 = "val" ∨ s.1 = "opts.numbers.push_back")) =
      [("val", "uint64_t"), ("opts.numbers.push_back", "uint64_t")] ∧
    Gen.distanceGuard = ["val > std::numeric_limits<uint64_t>::max() - start"] ∧
    Gen.nthGuard = ["opts.numbers[0] > (uint64_t) std::numeric_limits<int64_t>::max() / 20"] ∧
    Gen.mainSwitch = [("OPTION_CPU_INFO", "cpuInfo()"), ("OPTION_HELP", "help( 0)"), ("OPTION_NTH_PRIME", "nthPrime(opts)"),
      ("OPTION_R", "RiemannR(opts)"), ("OPTION_R_INVERSE", "RiemannR_inverse(opts)"), ("OPTION_STRESS_TEST", "stressTest(opts)"),
      ("OPTION_TEST", "test()"), ("OPTION_VERSION", "version()")] ∧
    Gen.mainSwitchDefault = ["sieve(opts)"] :=
  have keys : (Gen.optionMap.map Prod.fst).Nodup := by decide +kernel
  ⟨rfl, fun _ he _ he' => eq_of_key_eq keys he he', rfl, rfl, by decide +kernel, rfl, rfl, rfl, rfl⟩

/-- non-vacuity: accepted and rejected inputs -/
example : evalU64 "1e10+2^32" = .ok 14294967296 ∧ evalU64 "2^64" = .error .overflow ∧
    evalU64 "0-5" = .error .overflow ∧ evalU64 "(0 + 0xDf234 - 1000)*3/2%999" = .ok 828 := by
  refine ⟨?_, ?_, ?_, ?_⟩ <;> decide +kernel

end Ps.Props
