/-
  C05 — Prime k-tuplet counts (k = 2..6) are exact, including small and boundary cases.
-/
import PsProofs.CountSieve
import PsProps.C04
import PsProofs.Locks

namespace Ps.Props
open Ps Ps.Spec

/-- **C05 (single thread)** for i = 1..5 (twins … sextuplets): counter i of `PrimeSieve::sieve` — rows of
    the small-constellation table with first ≥ start ∧ last ≤ stop, plus for every byte of the (ideal)
    sieve the number of bit masks of row i of `bitmasks` contained in it (walk stopped by the ~0
    sentinel) — equals the number of constellations of kind i all of whose members lie in
    [start, stop].  `tupletCount ds lo hi` counts the p ∈ [lo, hi] with p + span ds ≤ hi and all
    p + d (d ∈ ds) prime, so a constellation cut by start or stop is not counted. -/
theorem C05_tuplets_single {isP : Nat → Bool} (hP : IsPrimeOK isP) (start stop flags i : Nat)
    (hi1 : 1 ≤ i) (hi6 : i < 6) (hf : isFlag flags (2 ^ i) = true) :
    (primeSieveCounts isP start stop flags).getD i 0 =
      ((patterns i).map (fun ds => tupletCount ds start stop)).sum :=
  (primeSieveCounts_spec hP start stop flags i hi6 hf).trans (kindCount_pos (by omega) start stop)

/-- **C05 (ParallelSieve)** the same with any number of threads / piece length (no constellation is
    lost or counted twice at a piece boundary — C09). -/
theorem C05_tuplets_parallel {isP : Nat → Bool} (hP : IsPrimeOK isP)
    (start stop flags numThreads minDist i : Nat) (hi1 : 1 ≤ i) (hi6 : i < 6)
    (hf : isFlag flags (2 ^ i) = true) (hs : stop ≤ umax)
    (htdu : getThreadDistance start stop (idealNumThreads start stop numThreads minDist) minDist ≤ umax)
    (hnw : ∀ k, k < numPieces start stop
        (getThreadDistance start stop (idealNumThreads start stop numThreads minDist) minDist) →
      stop < umax ∨ start + getThreadDistance start stop (idealNumThreads start stop numThreads minDist) minDist * k
        + 32 < stop ∨ k = 0) :
    (parallelCounts isP start stop flags numThreads minDist).getD i 0 =
      ((patterns i).map (fun ds => tupletCount ds start stop)).sum :=
  (parallelCounts_spec hP start stop flags numThreads minDist i hi6 hf hs hnw).trans
    (kindCount_pos (by omega) start stop)

/-- **C05 (masks)** the decoding tables are right for every one of the 256 byte values: the masks of
    row `kind` contained in a byte, decoded with `bitValues`, are exactly the constellations of that
    kind all of whose members have their bit set in the byte. -/
theorem C05_masks_exhaustive : ∀ kind < 6, 1 ≤ kind → ∀ byte < 256,
    byteTuplets (Gen.bitmasks.getD kind []) byte 0 =
      (List.range' 7 30).flatMap (fun r =>
        ((patterns kind).filter (fun ds => ds.all (fun d => inByte byte (r + d)))).map
          (fun ds => ds.map (r + ·))) := fun kind hk _ byte hbyte => by
  simpa only [Nat.zero_add] using byteTuplets_eq hk hbyte 0

/-- **C05 (small constellations)** the rows of the small table are (3,5), (5,7), (5,7,11), (5,7,11,13),
    (5,7,11,13,17) with the right kinds -/
theorem C05_small_rows :
    (Gen.psSmallPrimes.filter (fun r => r.2.2.1 ≥ 1)).map (fun r => (r.1, r.2.1, r.2.2.1)) =
      [(3, 5, 1), (5, 7, 1), (5, 11, 2), (5, 13, 3), (5, 17, 4)] := by decide

/-- non-vacuity: twins in [0, 100]: (3,5) (5,7) (11,13) (17,19) (29,31) (41,43) (59,61) (71,73) -/
example : (primeSieveCounts (fun n => decide n.Prime) 0 100 63).getD 1 0 = 8 := by decide +kernel
/-- a twin cut by `stop` is not counted: [0, 12] has (3,5), (5,7) but not (11,13) -/
example : (primeSieveCounts (fun n => decide n.Prime) 0 12 63).getD 1 0 = 2 := by decide +kernel

/-- **C05 (model sources)** regenerated on every run: digests of the (comment-, hook- and whitespace-normalised) bodies of the
    functions that the hand-written model behind the theorems of this file mirrors.  An edit to one of
    them — harmless or not — breaks this obligation; the check then searches for a failing input
    with the correspondence streams (DESIGN.md section 2, step 5). -/
theorem C05_model_sources :
    Gen.modelSources.filter (fun e => e.1 ∈ ["CountPrintPrimes.initCounts", "CountPrintPrimes.countkTuplets", "PrimeSieve.processSmallPrimes"]) =
     [("CountPrintPrimes.initCounts", "08ae47d8a1173e6e802b"),
      ("CountPrintPrimes.countkTuplets", "f17bfa234d9b21e83b89"),
      ("PrimeSieve.processSmallPrimes", "aea93bdf6096ecdf2777")] :=
  Gen.modelSources_filter (by simp only [Gen.modelSources, sublist_step]) rfl

end Ps.Props
