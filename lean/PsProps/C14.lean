/-
  C14 — Independent objects and concurrent calls do not influence each other.
-/
import PsModel.Iterator
import PsModel.Generated.Facts

namespace Ps.Props
open Ps

/-- **C14 (no hidden shared state)** regenerated from the sources on every run: the only variables with
    static storage duration in the library that are not const/constexpr are the two settings
    `sieve_size` and `num_threads` of src/api.cpp (which the property exempts).  A static buffer,
    cache or thread_local member introduced anywhere in src/ or include/ changes this list. -/
theorem C14_mutable_globals :
    Gen.mutableGlobals = [("src/api.cpp", "sieve_size"), ("src/api.cpp", "num_threads")] := rfl

/-- run a schedule of operations over two iterators (`false` = first, `true` = second object);
    each step touches only the addressed object — that is all the state the model (and, by
    `C14_mutable_globals`, the code) has -/
def runPair (env : Env) : Iter × Iter → List (Bool × Op) → List (Bool × Out)
  | _, [] => []
  | (a, b), (false, op) :: rest => let r := a.step env op; (false, r.1) :: runPair env (r.2, b) rest
  | (a, b), (true, op) :: rest => let r := b.step env op; (true, r.1) :: runPair env (a, r.2) rest

def proj (w : Bool) {α : Type} (l : List (Bool × α)) : List α := (l.filter (fun x => x.1 == w)).map (·.2)

/-- **C14 (frame)** for every interleaving of operations on two iterators, each iterator returns exactly
    what it returns when its own operations are run alone. -/
theorem C14_interleaving (env : Env) (a b : Iter) (sched : List (Bool × Op)) :
    proj false (runPair env (a, b) sched) = Iter.run env a (proj false sched) ∧
    proj true (runPair env (a, b) sched) = Iter.run env b (proj true sched) := by
  induction sched generalizing a b with
  | nil => exact ⟨rfl, rfl⟩
  | cons x rest ih =>
    -- a step of the addressed iterator heads both sides (by unfolding); the other projection skips it
    obtain ⟨_ | _, op⟩ := x
    · exact ⟨congrArg _ (ih _ b).1, (ih _ b).2⟩
    · exact ⟨(ih a _).1, congrArg _ (ih a _).2⟩

/-- non-vacuity: a schedule alternating two iterators -/
example : proj false [(false, Op.next 1), (true, Op.prev), (false, Op.prev)] = [Op.next 1, Op.prev] := by decide

end Ps.Props
