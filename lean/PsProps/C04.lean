/-
  C04 — count_primes equals pi(stop) - pi(start-1) exactly.
-/
import PsProofs.CountSieve
import PsProofs.Locks

namespace Ps.Props
open Ps Ps.Spec

/-- the primality test handed to the model decides `Nat.Prime` -/
def IsPrimeOK (isP : Nat → Bool) : Prop := ∀ n, isP n = true ↔ n.Prime

/-- **C04 (single thread)** for every start, stop: counter 0 of `PrimeSieve::sieve(start, stop, COUNT_PRIMES …)`
    — small-prime table rows 2, 3, 5 plus the popcount of every byte of the (ideal) sieve over
    [max(start,7), stop] — is the number of primes p with start ≤ p ≤ stop. -/
theorem C04_count_single {isP : Nat → Bool} (hP : IsPrimeOK isP) (start stop flags : Nat)
    (hf : isFlag flags 1 = true) :
    (primeSieveCounts isP start stop flags).getD 0 0 = primeCount start stop :=
  (primeSieveCounts_spec hP start stop flags 0 (by omega) hf).trans (kindCount_zero start stop)

/-- **C04 (ParallelSieve)** the same for `ParallelSieve::sieve` with any number of threads and any
    minimum piece length; `hnw` is the explicit no-wrap side condition of C09 (it is automatically
    true whenever stop < 2^64-1). -/
theorem C04_count_parallel {isP : Nat → Bool} (hP : IsPrimeOK isP)
    (start stop flags numThreads minDist : Nat) (hf : isFlag flags 1 = true) (hs : stop ≤ umax)
    (htdu : getThreadDistance start stop (idealNumThreads start stop numThreads minDist) minDist ≤ umax)
    (hnw : ∀ k, k < numPieces start stop
        (getThreadDistance start stop (idealNumThreads start stop numThreads minDist) minDist) →
      stop < umax ∨ start + getThreadDistance start stop (idealNumThreads start stop numThreads minDist) minDist * k
        + 32 < stop ∨ k = 0) :
    (parallelCounts isP start stop flags numThreads minDist).getD 0 0 = primeCount start stop :=
  (parallelCounts_spec hP start stop flags numThreads minDist 0 (by omega) hf hs hnw).trans
    (kindCount_zero start stop)

/-- **C04** the count is 0 when start > stop -/
theorem C04_empty {start stop : Nat} (h : stop < start) : primeCount start stop = 0 :=
  countIn_empty _ h

/-- **C04** counts are additive over adjacent intervals -/
theorem C04_additive {a b c : Nat} (h1 : a ≤ b + 1) (h2 : b ≤ c) :
    primeCount a b + primeCount (b + 1) c = primeCount a c :=
  countIn_split _ h1 h2

/-- **C04** the count agrees with what the iterator / generate_primes enumerate for the interval:
    it is the length of the ascending list of primes of [start, stop] -/
theorem C04_agrees_with_enumeration (start stop : Nat) :
    primeCount start stop = (primesIn start stop).length :=
  (primesIn_length start stop).symm

/-- non-vacuity: a primality test satisfying the hypothesis exists -/
example : ∃ isP, IsPrimeOK isP := ⟨fun n => decide n.Prime, fun n => by simp⟩
/-- COUNT_PRIMES = 1 is a flag of 63 -/
example : isFlag 63 1 = true ∧ isFlag 1 1 = true := by decide
/-- non-vacuity: the model counts π(100) = 25 -/
example : (primeSieveCounts (fun n => decide n.Prime) 0 100 1).getD 0 0 = 25 := by decide +kernel

/-- **C04 (model sources)** regenerated on every run: digests of the (comment-, hook- and whitespace-normalised) bodies of the
    functions that the hand-written model behind the theorems of this file mirrors.  An edit to one of
    them — harmless or not — breaks this obligation; the check then searches for a failing input
    with the correspondence streams (DESIGN.md section 2, step 5). -/
theorem C04_model_sources :
    Gen.modelSources.filter (fun e => e.1 ∈ ["CountPrintPrimes.countPrimes", "PrimeSieve.sieve", "PrimeSieve.processSmallPrimes"]) =
     [("CountPrintPrimes.countPrimes", "54bb15a4166e97fe885b"),
      ("PrimeSieve.sieve", "aca790c07461bbada381"),
      ("PrimeSieve.processSmallPrimes", "aea93bdf6096ecdf2777")] :=
  Gen.modelSources_filter (by simp only [Gen.modelSources, sublist_step]) rfl

end Ps.Props
