/-
  C11 — C API equals the C++ API and obeys its error contract.
-/
import PsModel.IteratorC
import PsModel.Generated.Facts
import PsProps.C03
import PsProofs.Locks

namespace Ps.Props
open Ps Ps.Spec

/-- the iterator state after a failed primesieve_next_prime -/
def cErrC : CIter := { it := cErrStateNext, isError := true, edom := true }

/-- primesieve_next_prime is iterator::next_prime with a raised exception turned into the error state -/
theorem cNext_eq_next (env : Env) (c : CIter) (k : Nat) :
    c.next env k = match c.it.next env k with
      | (.ok v, st') => (v, { c with it := st' })
      | (.error _, _) => (umax, cErrC) := by
  unfold CIter.next Iter.next cGenerateNext
  by_cases hi : c.it.i + 1 ≥ c.it.size
  · simp only [hi, if_true]
    cases c.it.generateNext env k <;> rfl
  · simp only [hi, if_false]

/-- a primesieve_next_prime whose refill fails returns PRIMESIEVE_ERROR and leaves the state `cErrC` -/
theorem C11_error_state (env : Env) (c : CIter) (k : Nat) (e : Err)
    (hi : c.it.i + 1 ≥ c.it.size) (hf : cGenerateNext env k c.it = .error e) :
    c.next env k = (umax, cErrC) := by
  rw [cNext_eq_next, Iter.next, if_pos hi, show c.it.generateNext env k = .error e from hf]

theorem run_fixpoint (env : Env) (c : CIter) (hfix : ∀ k, c.next env k = (umax, c)) (ks : List Nat) :
    CIter.run env c (ks.map Op.next) = ks.map (fun _ => Out.val umax) := by
  induction ks with
  | nil => rfl
  | cons k ks ih =>
    rw [List.map_cons, List.map_cons, CIter.run]
    simp only [CIter.step, hfix k]
    exact congrArg _ ih

/-- a call in the error state fails again (there is no prime ≥ 2^64-1) and stays in it.  Through
    `genNextFresh_spec`, not `next_sim`: `R` has no case for `cErrStateNext` (a non-empty buffer with
    `incl = true`, which `AtInv` excludes) -/
theorem cErrC_fix {env : Env} (h : EnvOK env) (k : Nat) : cErrC.next env k = (umax, cErrC) :=
  C11_error_state env cErrC k .overflow (Nat.le_refl 1)
    ((genNextFresh_spec h k cErrStateNext (Nat.le_refl umax)).of_ge U64_le_nextPrime_umax)

/-- **C11 (sticky error)** once primesieve_next_prime has failed, the iterator has is_error = 1,
    errno = EDOM has been set, and every further primesieve_next_prime returns PRIMESIEVE_ERROR
    (UINT64_MAX) again — for every block policy and float oracle. -/
theorem C11_error_sticky {env : Env} (h : EnvOK env) (ks : List Nat) :
    CIter.run env cErrC (ks.map Op.next) = ks.map (fun _ => Out.val umax) ∧
    cErrC.isError = true ∧ cErrC.edom = true :=
  ⟨run_fixpoint env cErrC (cErrC_fix h) ks, rfl, rfl⟩

/-- **C11 (same as C++)** a call that does not fail returns the same value and leaves the same
    iterator state as primesieve::iterator::next_prime / prev_prime (the flags are untouched, so
    errno is not set to EDOM by a successful call). -/
theorem C11_next_same_as_cpp (env : Env) (c : CIter) (k v : Nat) (st' : Iter)
    (h : c.it.next env k = (.ok v, st')) : c.next env k = (v, { c with it := st' }) := by
  rw [cNext_eq_next, h]

theorem C11_prev_same_as_cpp (env : Env) (c : CIter) :
    c.prev env = ((c.it.prev env).1, { c with it := (c.it.prev env).2 }) := rfl

/-- **C11 (jump_to inclusive, skipto exclusive)** directly after primesieve_jump_to(s) the next prime is
    the first prime ≥ s, after primesieve_skipto(s) the first prime > s (both via C03). -/
theorem C11_jump_inclusive_skipto_exclusive (env : Env) (henv : EnvOK env) (s0 h0 s h k : Nat)
    (hs0 : s0 ≤ umax) (hs : s ≤ umax) :
    Iter.run env (Iter.mk' s0 h0) [.jumpTo s h, .next k] = specRun (.fresh s0) [.jumpTo s h, .next k] ∧
    Iter.run env (Iter.mk' s0 h0) [.skipTo s h, .next k] = specRun (.fresh s0) [.skipTo s h, .next k] ∧
    (specStep (.fresh s) (.next k)).1 = (if nextPrime s < U64 then .val (nextPrime s) else .err .overflow) ∧
    (specStep (.at s) (.next k)).1 =
      (if nextPrime (s + 1) < U64 then .val (nextPrime (s + 1)) else .err .overflow) := by
  have hwf : ∀ op : Op, Op.WF op → ∀ o ∈ [op, .next k], Op.WF o :=
    fun op hop => List.forall_mem_cons.2 ⟨hop, List.forall_mem_cons.2 ⟨trivial, nofun⟩⟩
  refine ⟨C03_refines env henv s0 h0 hs0 _ (hwf _ hs), C03_refines env henv s0 h0 hs0 _ (hwf _ hs), ?_, ?_⟩
  · simp only [specStep, specNext]; split <;> rfl
  · simp only [specStep, specNext]; split <;> rfl

/-- **C11 (wrappers)** regenerated from src/api-c.cpp and src/iterator-c.cpp on every run: every extern "C"
    function that has a try block catches std::exception, sets errno = EDOM in the handler and
    returns PRIMESIEVE_ERROR / NULL / nothing / the iterator error state from it. -/
theorem C11_wrappers_catch :
    ∀ w ∈ Gen.cWrappers, w.2.1 = true →
      w.2.2.1 = true ∧ w.2.2.2.1 = true ∧
      w.2.2.2.2.1 ∈ ["PRIMESIEVE_ERROR", "nullptr", "void", "iterator-error-state"] := by decide +kernel

/-- the functions WITHOUT a try block are exactly these (none of them can raise a primesieve_error:
    type dispatch, free, getters/setters, iterator bookkeeping) -/
theorem C11_wrappers_without_try :
    (Gen.cWrappers.filter (fun w => !w.2.1)).map (fun w => w.1) =
      ["primesieve_generate_primes", "primesieve_generate_n_primes", "primesieve_free",
       "primesieve_get_sieve_size", "primesieve_get_num_threads", "primesieve_set_sieve_size",
       "primesieve_set_num_threads", "primesieve_get_max_stop", "primesieve_version", "primesieve_init",
       "primesieve_jump_to", "primesieve_skipto", "primesieve_clear", "primesieve_free_iterator"] := rfl

/-- errno is assigned EDOM only inside handlers, except on the invalid-type-code path of the two
    array functions; NULL comes with *size = 0 there -/
theorem C11_errno_only_on_error :
    ∀ w ∈ Gen.cWrappers, w.2.2.2.2.2.1 = 0 ∨
      (w.1 ∈ ["primesieve_generate_primes", "primesieve_generate_n_primes"] ∧ w.2.2.2.2.2.1 = 1) := by decide +kernel

/-- **C11 (type codes)** each of the 14 type codes instantiates the array functions at the element type of
    the same name -/
theorem C11_type_switch :
    Gen.cTypeSwitch = [("SHORT_PRIMES", "short"), ("USHORT_PRIMES", "unsigned short"), ("INT_PRIMES", "int"),
      ("UINT_PRIMES", "unsigned int"), ("LONG_PRIMES", "long"), ("ULONG_PRIMES", "unsigned long"),
      ("LONGLONG_PRIMES", "long long"), ("ULONGLONG_PRIMES", "unsigned long long"), ("INT16_PRIMES", "int16_t"),
      ("UINT16_PRIMES", "uint16_t"), ("INT32_PRIMES", "int32_t"), ("UINT32_PRIMES", "uint32_t"),
      ("INT64_PRIMES", "int64_t"), ("UINT64_PRIMES", "uint64_t")] ∧
    Gen.cTypeSwitchN = Gen.cTypeSwitch := ⟨rfl, rfl⟩

/-- **C11 (model sources)** regenerated on every run: digests of the (comment-, hook- and whitespace-normalised) bodies of the
    functions that the hand-written model behind the theorems of this file mirrors.  An edit to one of
    them — harmless or not — breaks this obligation; the check then searches for a failing input
    with the correspondence streams (DESIGN.md section 2, step 5). -/
theorem C11_model_sources :
    Gen.modelSources.filter (fun e => e.1 ∈ ["iterator-c.skipto", "iterator-c.jump_to", "iterator-c.clear", "iterator-c.init", "iterator-c.free_iterator", "iterator-c.generate_next_primes", "iterator-c.generate_prev_primes", "iterator.h.next_prime", "iterator.h.prev_prime"]) =
     [("iterator-c.skipto", "636c0a68cf6ec520fb4b"),
      ("iterator-c.jump_to", "305e42bf5e9ea1870743"),
      ("iterator-c.clear", "0bfc2a109ad41a52c480"),
      ("iterator-c.init", "5cd6de5dae89be98f14a"),
      ("iterator-c.free_iterator", "92349951134908b1f05a"),
      ("iterator-c.generate_next_primes", "f2b77575cffe55b64d7e"),
      ("iterator-c.generate_prev_primes", "686803fbb620259da67e"),
      ("iterator.h.next_prime", "a158acb081322d74c935"),
      ("iterator.h.prev_prime", "609801e019b49ddb63c3")] :=
  Gen.modelSources_filter (by simp only [Gen.modelSources, sublist_step]) rfl

end Ps.Props
