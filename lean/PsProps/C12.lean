/-
  C12 — No undefined behaviour, memory error, failed assertion or leak for any input.
  What a proof can carry: the index arithmetic that keeps buffer and table accesses in bounds,
  the signed-arithmetic side conditions, and a ledger of every internal assertion.  Memory
  errors of the real allocator, uninitialised reads, alignment and leaks are outside any
  executable model: they are covered by running every correspondence stream on an
  ASan + UBSan + ENABLE_ASSERT build (an abort is a violation with the operation as replay).
-/
import PsProofs.Fill
import PsProofs.Wheel
import PsModel.Generated.Asserts
import PsModel.Generated.Tables
import PsProofs.Segments
import PsProps.C07
import PsProps.C08
import PsProps.C16

namespace Ps.Props
open Ps Ps.Fill

/-- **C12 (table lookups)** getStartIdx / getStopIdx index the 720-entry primePi table only inside it -/
theorem C12_primePi_lookups (start stop : Nat) :
    (start ≤ Gen.maxCachedPrime → start > 1 → start - 1 < Gen.primePi720.length) ∧
    (stop < Gen.maxCachedPrime → stop < Gen.primePi720.length) := by
  rw [primePi_len, show Gen.maxCachedPrime = 719 from rfl]
  omega

/-- **C12 (small-prime copy)** for start ≤ stop the copy `smallPrimes[a, b)` of initNextPrimes /
    initPrevPrimes has a ≤ b ≤ 128: it stays inside the 128-entry table and `b - a` cannot wrap
    (this is ASSERT(a <= b)) -/
theorem C12_small_prime_copy (start stop : Nat) (h : start ≤ Gen.maxCachedPrime) (hss : start ≤ stop) :
    getStartIdx start ≤ getStopIdx stop ∧ getStopIdx stop ≤ Gen.smallPrimes128.length := by
  have hm : Gen.maxCachedPrime = 719 := rfl
  rw [getStartIdx_eq, getStopIdx_eq, smallPrimes_len]
  exact primePi_mono (by omega) (by omega)

/-- **C12 (buffer slack)** after initNextPrimes — for every previous buffer size and EVERY value of the
    floating-point estimate primeCountUpper — the buffer holds the cached primes
    (ASSERT(primes.size() >= *size)), and whenever a segment is going to be sieved (stop ≥ 721)
    at least 64 further slots exist (ASSERT(i + 64 <= maxSize) of both fillNextPrimes variants) -/
theorem C12_next_buffer_slack (old start stop pixU : Nat) (hss : start ≤ stop) :
    (initNextSizes old start stop pixU).2 ≤ (initNextSizes old start stop pixU).1 ∧
    (stop ≥ Gen.maxCachedPrime + 2 →
      (initNextSizes old start stop pixU).2 + 64 ≤ (initNextSizes old start stop pixU).1) ∧
    (initNextSizes old start stop pixU).2 ≤ 128 := by
  have hm : Gen.maxCachedPrime = 719 := rfl
  unfold initNextSizes
  simp only [growTo_eq_max]
  split
  · rename_i h
    have ho := C12_small_prime_copy start stop h hss
    rw [smallPrimes_len] at ho
    -- of the clamp only its lower bound matters
    have hb := (inBetween_range (show getStopIdx stop - getStartIdx start + 64 ≤ 1024 by omega) (pixU + 64)).1
    split <;> simp only <;> omega
  · have hb := (inBetween_range (show 64 ≤ 1024 by omega) (pixU + 64)).1
    simp only; omega

/-- **C12 (fillNextPrimes, default)** for every segment content (popcounts of its 64-bit words) and every
    buffer with i + 64 ≤ size at loop entry: every slot the 4-way unrolled loop writes — including
    the up to 3 surplus stores per word and the stores for an all-zero word — lies inside the
    buffer, and the size returned does not exceed it -/
theorem C12_fill_default_in_bounds (maxSize : Nat) (pcs : List Nat) (i : Nat) (hpc : ∀ pc ∈ pcs, pc ≤ 64)
    (hi : i + 64 ≤ maxSize) :
    (∀ k ∈ (fillDefault maxSize pcs i).1, k < maxSize) ∧ (fillDefault maxSize pcs i).2 ≤ maxSize := by
  fun_induction fillDefault maxSize pcs i with
  | case1 i => exact ⟨nofun, by omega⟩
  | case2 pc rest i w i' hc r ih =>
    obtain ⟨hpc, hrest⟩ := List.forall_mem_cons.mp hpc
    -- `hc : i' ≤ maxSize - 64` is `hi` for the next word
    obtain ⟨hr, hr'⟩ := ih hrest (by omega)
    exact ⟨List.forall_mem_append.mpr ⟨writesDefault_lt hpc hi, hr⟩, hr'⟩
  | case3 pc rest i w i' hc =>
    have hpc := hpc pc List.mem_cons_self
    exact ⟨writesDefault_lt hpc hi, by omega⟩

/-- **C12 (fillNextPrimes, AVX512)** every 8-lane store lies inside the buffer; size ≤ buffer size -/
theorem C12_fill_avx512_in_bounds (maxSize : Nat) (hm : 8 ≤ maxSize) (pcs : List Nat) (i : Nat) (hi : i ≤ maxSize) :
    (∀ k ∈ (fillAvx maxSize pcs i).1, k < maxSize) ∧ (fillAvx maxSize pcs i).2 ≤ maxSize := by
  fun_induction fillAvx maxSize pcs i with
  | case1 i => exact ⟨nofun, hi⟩
  | case2 pc rest i hc => exact ⟨nofun, hi⟩
  | case3 pc rest i hc r ih =>
    obtain ⟨hr, hr'⟩ := ih (by omega)
    exact ⟨List.forall_mem_append.mpr ⟨writesAvx_lt (by omega), hr⟩, hr'⟩

/-- **C12 (fillPrevPrimes)** every slot written lies below the capacity in force at that moment -/
theorem C12_fill_prev_in_bounds (pcs : List Nat) (i cap : Nat) (hpc : ∀ pc ∈ pcs, pc ≤ 64) :
    ∀ w ∈ (fillPrevDefault pcs i cap).1, w.1 < w.2 := by
  fun_induction fillPrevDefault pcs i cap with
  | case1 i cap => nofun
  | case2 pc rest i cap cap' r ih =>
    obtain ⟨hpc, hrest⟩ := List.forall_mem_cons.mp hpc
    have hcap : i + 64 ≤ cap' := by simp only [cap']; split <;> omega
    exact List.forall_mem_append.mpr ⟨List.forall_mem_map.mpr (writesDefault_lt hpc hcap), ih hrest⟩

/-- **C12 (EratSmall unrolled loop)** regenerated from EratSmall.cpp: in each of the 8 unrolled loops every store offset is componentwise ≤
    the loop's maxOffset, so under the loop condition i < max(sieveSize, maxOffset) - maxOffset all 8 stores
    `sieve[i + sievingPrime·A + B]` address bytes inside [0, sieveSize), for every sieving prime and sieve size
    (the single-step cases write sieve[i] only after CHECK_FINISHED has established i < sieveSize; EratBig
    masks the index with sieveSize - 1) -/
theorem C12_eratSmall_unrolled_in_bounds (u : Nat × Nat × Nat × Nat × Nat × List (Nat × Nat × Nat))
    (hu : u ∈ Gen.eratSmallUnrolled) (sp i sieveSize : Nat)
    (hi : i < max sieveSize (sp * u.2.1 + u.2.2.1) - (sp * u.2.1 + u.2.2.1)) :
    ∀ st ∈ u.2.2.2.2.2, i + sp * st.1 + st.2.1 < sieveSize := by
  intro st hst
  obtain ⟨h1, h2, _⟩ := (Wheel.unrolled_offsets_ok u hu).1 st hst
  have : sp * st.1 ≤ sp * u.2.1 := Nat.mul_le_mul_left sp h1
  omega

/-- **C12 (decode tables)** `nextPrime` reads bitValues[ctz64(bits)] with ctz64(0) = 64: the regenerated table
    has 65 entries; Erat reads unsetSmaller / unsetLarger at byteRemainder(n) ∈ [7, 36]: both
    regenerated tables have 37 entries -/
theorem C12_decode_tables (bits n : Nat) :
    ctz64 bits < Gen.bitValues.length ∧ Gen.bitValuesLen = 65 ∧
    byteRemainder n < Gen.unsetSmaller.length ∧ byteRemainder n < Gen.unsetLarger.length ∧ 7 ≤ byteRemainder n := by
  have h1 : Gen.bitValues.length = 65 := by decide
  have h2 : Gen.unsetSmaller.length = 37 := by decide
  have h3 : Gen.unsetLarger.length = 37 := by decide
  have := ctz64_le bits
  have := byteRemainder_bounds n
  exact ⟨by omega, rfl, by omega, by omega, by omega⟩

/-- **C12 (constants)** ASSERT(maxCachedPrime() >= 5); the cached-prime table ends with 719 -/
theorem C12_constants : Gen.maxCachedPrime ≥ 5 ∧ Gen.smallPrimes128.getLast? = some Gen.maxCachedPrime := by decide

/-- **C12 (signed arithmetic)** the signed operations whose operands come from the user: nth_prime negates n only
    inside [-π(2^64), -1]; the command line multiplies n by 20 only when the product fits int64;
    the calculator's +, -, * at int / int64_t never overflow silently -/
theorem C12_signed (n : Int) (h0 : n < 0) (h : ¬ n < -(max_n : Int)) (argv : List String) :
    (int64Min < n ∧ -n ≤ int64Max) ∧
    (∀ k st q tm, Cli.mainAction argv = .nth k st q tm → k * 20 ≤ 9223372036854775807) :=
  ⟨C07_negation_in_range n h0 h, fun k st q tm e => ((C16_arguments_in_range argv).2 k st q tm e).1⟩

/-- the ledger: every ASSERT of the library with the theorem that discharges it in the model, or
    `runtime` = not modelled, checked by the ENABLE_ASSERT build on every stream run -/
def assertLedger : List (String × String × String) := [
  ("src/CountPrintPrimes.cpp", "sieve_.capacity() % sizeof(uint64_t) == 0", "runtime"),
  ("src/CountPrintPrimes.cpp", "sieve_.capacity() % 4 == 0", "runtime"),
  ("src/Erat.cpp", "start >= 7", "runtime"),
  ("src/Erat.cpp", "maxSieveSize >= 16", "proved: C08_setSieveSize_clamped, C08_getSieveSize_range"),
  ("src/Erat.cpp", "maxSieveSize <= 8192", "proved: C08_setSieveSize_clamped, C08_getSieveSize_range"),
  ("src/Erat.cpp", "sieveSize % sizeof(uint64_t) == 0", "proved: C08_sieveSize_mod8_or_pow2"),
  ("src/Erat.cpp", "n >= 7", "runtime"),
  ("src/Erat.cpp", "sieve_.capacity() % sizeof(uint64_t) == 0", "runtime"),
  ("src/EratBig.cpp", "isPow2(sieveSize)", "runtime"),
  ("src/EratBig.cpp", "sieveSize <= SievingPrime::MAX_MULTIPLEINDEX + 1", "runtime"),
  ("src/EratBig.cpp", "prime <= maxPrime_", "runtime"),
  ("src/EratBig.cpp", "segment < buckets_.size()", "runtime"),
  ("src/EratMedium.cpp", "(maxPrime / 30) * getMaxFactor() + getMaxFactor() <= SievingPrime::MAX_MULTIPLEINDEX", "runtime"),
  ("src/EratMedium.cpp", "prime <= maxPrime_", "runtime"),
  ("src/EratMedium.cpp", "wheelIndex <= 7", "runtime"),
  ("src/EratMedium.cpp", "wheelIndex >= 8", "runtime"),
  ("src/EratMedium.cpp", "wheelIndex <= 15", "runtime"),
  ("src/EratMedium.cpp", "wheelIndex >= 16", "runtime"),
  ("src/EratMedium.cpp", "wheelIndex <= 23", "runtime"),
  ("src/EratMedium.cpp", "wheelIndex >= 24", "runtime"),
  ("src/EratMedium.cpp", "wheelIndex <= 31", "runtime"),
  ("src/EratMedium.cpp", "wheelIndex >= 32", "runtime"),
  ("src/EratMedium.cpp", "wheelIndex <= 39", "runtime"),
  ("src/EratMedium.cpp", "wheelIndex >= 40", "runtime"),
  ("src/EratMedium.cpp", "wheelIndex <= 47", "runtime"),
  ("src/EratMedium.cpp", "wheelIndex >= 48", "runtime"),
  ("src/EratMedium.cpp", "wheelIndex <= 55", "runtime"),
  ("src/EratMedium.cpp", "wheelIndex >= 56", "runtime"),
  ("src/EratMedium.cpp", "wheelIndex <= 63", "runtime"),
  ("src/EratSmall.cpp", "(maxPrime / 30) * getMaxFactor() + getMaxFactor() <= SievingPrime::MAX_MULTIPLEINDEX", "runtime"),
  ("src/EratSmall.cpp", "prime <= maxPrime_", "runtime"),
  ("src/EratSmall.cpp", "wheelIndex <= 63", "runtime"),
  ("src/ParallelSieve.cpp", "threads > 0", "runtime"),
  ("src/ParallelSieve.cpp", "getDistance() > 0", "runtime"),
  ("src/PreSieve.cpp", "sieve.capacity() >= primeBits.size()", "runtime"),
  ("src/PrimeGenerator.cpp", "a <= b", "proved: C12_small_prime_copy"),
  ("src/PrimeGenerator.cpp", "primes.size() >= *size", "proved: C12_next_buffer_slack"),
  ("src/PrimeGenerator.cpp", "maxCachedPrime() >= 5", "proved: C12_constants"),
  ("src/PrimeGenerator_default.hpp", "i + 64 <= maxSize", "proved: C12_next_buffer_slack"),
  ("src/PrimeGenerator_x86_avx512.hpp", "i + 64 <= maxSize", "proved: C12_next_buffer_slack"),
  ("src/SievingPrimes.cpp", "PreSieve::getMaxPrime() >= 7", "runtime"),
  ("src/SievingPrimes.cpp", "start % 2 == 1", "runtime"),
  ("src/SievingPrimes.cpp", "primes_.size() >= 64", "runtime"),
  ("src/iterator-c.cpp", "it->memory != nullptr", "runtime"),
  ("src/iterator-c.cpp", "!iterData.include_start_number", "runtime"),
  ("src/iterator.cpp", "!iterData.include_start_number", "runtime"),
  ("src/nthPrime.cpp", "n < 0", "proved: C07_negation_in_range (the branch is only entered for n < 0)"),
  ("include/primesieve/Bucket.hpp", "multipleIndex <= MAX_MULTIPLEINDEX", "runtime"),
  ("include/primesieve/Bucket.hpp", "wheelIndex <= MAX_WHEELINDEX", "runtime"),
  ("include/primesieve/Bucket.hpp", "multipleIndex <= MAX_MULTIPLEINDEX", "runtime"),
  ("include/primesieve/Bucket.hpp", "wheelIndex <= MAX_WHEELINDEX", "runtime"),
  ("include/primesieve/Bucket.hpp", "sievingPrime != nullptr", "runtime"),
  ("include/primesieve/IteratorHelper.hpp", "primeGenerator == nullptr", "runtime"),
  ("include/primesieve/PreSieveTables.hpp", "maxPrime == *std::max_element(preSievePrimes[i].begin(), preSievePrimes[i].end())", "runtime"),
  ("include/primesieve/PreSieveTables.hpp", "start >= maxPrime * maxPrime", "runtime"),
  ("include/primesieve/Vector.hpp", "pos < size()", "runtime"),
  ("include/primesieve/Vector.hpp", "pos < size()", "runtime"),
  ("include/primesieve/Vector.hpp", "end_ >= array_", "runtime"),
  ("include/primesieve/Vector.hpp", "capacity_ >= array_", "runtime"),
  ("include/primesieve/Vector.hpp", "!empty()", "runtime"),
  ("include/primesieve/Vector.hpp", "!empty()", "runtime"),
  ("include/primesieve/Vector.hpp", "!empty()", "runtime"),
  ("include/primesieve/Vector.hpp", "!empty()", "runtime"),
  ("include/primesieve/Vector.hpp", "pos == end_", "runtime"),
  ("include/primesieve/Vector.hpp", "n > capacity()", "runtime"),
  ("include/primesieve/Vector.hpp", "size() <= capacity()", "runtime"),
  ("include/primesieve/Vector.hpp", "old_capacity < new_capacity", "runtime"),
  ("include/primesieve/Vector.hpp", "size() < capacity()", "runtime"),
  ("include/primesieve/Vector.hpp", "((uintptr_t) (void*) array_) % sizeof(uint64_t) == 0", "runtime"),
  ("include/primesieve/Vector.hpp", "pos < size()", "runtime"),
  ("include/primesieve/Vector.hpp", "pos < size()", "runtime"),
  ("include/primesieve/Vector.hpp", "N > 0", "runtime"),
  ("include/primesieve/Vector.hpp", "N > 0", "runtime"),
  ("include/primesieve/Wheel.hpp", "segmentLow % 30 == 0", "runtime"),
  ("include/primesieve/Wheel.hpp", "multiple % 2 != 0", "runtime"),
  ("include/primesieve/Wheel.hpp", "multiple % 3 != 0", "runtime"),
  ("include/primesieve/Wheel.hpp", "multiple % 5 != 0", "runtime"),
  ("include/primesieve/Wheel.hpp", "multiple % 7 != 0", "runtime"),
  ("include/primesieve/Wheel.hpp", "multiple % 11 != 0", "runtime"),
  ("include/primesieve/ctz.hpp", "x <= 64", "runtime"),
  ("include/primesieve/ctz.hpp", "x != 0", "runtime"),
  ("include/primesieve/littleendian_cast.hpp", "uintptr_t(array) % sizeof(T) == 0", "runtime"),
  ("include/primesieve/malloc_vector.hpp", "pos < size()", "runtime"),
  ("include/primesieve/malloc_vector.hpp", "end_ >= array_", "runtime"),
  ("include/primesieve/malloc_vector.hpp", "capacity_ >= array_", "runtime"),
  ("include/primesieve/malloc_vector.hpp", "pos == end_", "runtime"),
  ("include/primesieve/malloc_vector.hpp", "n > capacity()", "runtime"),
  ("include/primesieve/malloc_vector.hpp", "size() <= capacity()", "runtime"),
  ("include/primesieve/malloc_vector.hpp", "old_capacity < new_capacity", "runtime"),
  ("include/primesieve/malloc_vector.hpp", "size() < capacity()", "runtime")
]

/-- **C12 (assertion ledger)** regenerated on every run: the ASSERT sites of src/ and include/ are exactly the
    entries of the ledger (none added, removed or changed without a decision about it) -/
theorem C12_assert_ledger : Gen.assertSites = assertLedger.map (fun e => (e.1, e.2.1)) := rfl

/-- **C12 (source lock)** the fill-loop guards and initNextPrimes were modelled from exactly this text -/
theorem C12_fill_source :
    Gen.fillGuards = [("default.next.while", "i <= maxSize - 64 && sieveIdx < sieveSize"),
      ("default.prev.grow", "i + 64 > primes.size()"), ("avx512.next.break", "i + primeCount > maxSize - 8"),
      ("default.unroll", "primes[j+3] = nextPrime(bits, low); bits &= bits - 1; j += 4; } while (j < i)")] ∧
    Gen.initNextPrimesText = "void PrimeGenerator::initNextPrimes(Vector<uint64_t>& primes, std::size_t* size) { auto resize = [](Vector<uint64_t>& primes, std::size_t size) { if (size > primes.size()) { primes.clear(); primes.resize(size); } }; std::size_t maxSize = 1 << 10; if (start_ <= maxCachedPrime()) { std::size_t a = getStartIdx(); std::size_t b = getStopIdx(); *size = b - a; if (stop_ < maxCachedPrime() + 2) resize(primes, *size); else { std::size_t minSize = *size + 64; std::size_t pix = primeCountUpper(start_, stop_) + 64; pix = inBetween(minSize, pix, maxSize); pix = std::max(*size, pix); resize(primes, pix); } ASSERT(primes.size() >= *size); std::copy(smallPrimes.begin() + a, smallPrimes.begin() + b, primes.begin()); } else { std::size_t minSize = 64; std::size_t pix = primeCountUpper(start_, stop_) + 64; pix = inBetween(minSize, pix, maxSize); resize(primes, pix); } initErat(); }" :=
  ⟨rfl, rfl⟩

/-- non-vacuity: a buffer of 1024 slots, a segment of three words -/
example : (fillDefault 1024 [50, 0, 64] 900).2 = 1014 ∧ (fillAvx 1024 [50, 0, 60] 900).2 = 1010 ∧
    (initNextSizes 0 0 1000 0) = (192, 128) := by decide +kernel

end Ps.Props
