/-
  C15 — Printed primes and k-tuplets are exactly the counted ones, in order and format.
-/
import PsProofs.CountSieve
import PsProps.C04
import PsProofs.Locks

namespace Ps.Props
open Ps Ps.Spec

/-- **C15 (print_primes)** for every start, stop the lines written by `PrimeSieve::sieve(start, stop,
    PRINT_PRIMES)` — table strings "2" "3" "5" when in range, then for every byte of the (ideal) sieve
    `low + bitValues[k]` for every 1 bit k ascending — are the decimal renderings of the primes of
    [start, stop] in ascending order, and nothing else. -/
theorem C15_print_primes {isP : Nat → Bool} (hP : IsPrimeOK isP) (start stop : Nat) :
    primeSievePrint isP start stop 64 = (primesIn start stop).map toString := by
  unfold primeSievePrint
  split
  · rename_i h; rw [primesIn, primesHO_nil_of_le h]; rfl
  · have hbig : (if stop ≥ 7 then (sievePrimeNumbers isP start stop).map toString else []) =
        (primesIn (max start 7) stop).map toString := by
      rw [sievePrimeNumbers_eq hP]
      split
      · rfl
      · rw [primesIn, primesHO_nil_of_le (by omega)]; rfl
    simp only [show isFlag 64 64 = true by decide, if_true]
    rw [hbig, smallLines_primes, ← List.map_append, ← primesIn_split6]

/-- the list printed has exactly as many lines as count_primes counts -/
theorem C15_lines_eq_count {isP : Nat → Bool} (hP : IsPrimeOK isP) (start stop : Nat) :
    (primeSievePrint isP start stop 64).length = primeCount start stop := by
  rw [C15_print_primes hP, List.length_map, primesIn_length]

/-- **C15 (print_twins … print_sextuplets)** for 7 ≤ start: the lines are "(a, b, …)" for exactly the
    constellations of that kind inside [start, stop], ordered by first member.
    (`_from7`: the rows for the five constellations below 7 are covered by `C15_small_strings`.) -/
theorem C15_print_tuplets_from7 {isP : Nat → Bool} (hP : IsPrimeOK isP) (start stop kind : Nat)
    (hk1 : 1 ≤ kind) (hk6 : kind < 6) (h7 : 7 ≤ start) :
    primeSievePrint isP start stop (64 * 2 ^ kind) = (tupletList kind start stop).map tupleStr := by
  unfold primeSievePrint
  split
  · rename_i h; rw [tupletList_empty kind h]; rfl
  · obtain ⟨hflag, hpk⟩ := printFlags kind hk6 hk1
    simp only [show ¬ start ≤ 5 by omega, show stop ≥ 7 by omega, hflag, hpk, if_true, if_false, List.nil_append,
      Bool.false_eq_true]
    rw [if_pos hk1, sieveTuplets_eq hP start stop kind hk6, Nat.max_eq_left h7]

/-- as many k-tuplet lines as the k-tuplet counter counts -/
theorem C15_tuplet_lines_eq_count (kind lo hi : Nat) :
    (tupletList kind lo hi).length = ((patterns kind).map (fun ds => tupletCount ds lo hi)).sum :=
  tupletList_length kind lo hi

/-- **C15 (small rows)** the strings of the small table are the renderings of their members -/
theorem C15_small_strings :
    Gen.psSmallPrimes.map (fun r => r.2.2.2) =
      ["2", "3", "5", tupleStr [3, 5], tupleStr [5, 7], tupleStr [5, 7, 11], tupleStr [5, 7, 11, 13],
       tupleStr [5, 7, 11, 13, 17]] := by decide +kernel

example : primeSievePrint (fun n => decide n.Prime) 0 20 64 = ["2", "3", "5", "7", "11", "13", "17", "19"] := by
  decide +kernel
/-- 128 = PRINT_TWINS -/
example : primeSievePrint (fun n => decide n.Prime) 0 20 128 = ["(3, 5)", "(5, 7)", "(11, 13)", "(17, 19)"] := by
  decide +kernel

/-- **C15 (model sources)** regenerated on every run: digests of the (comment-, hook- and whitespace-normalised) bodies of the
    functions that the hand-written model behind the theorems of this file mirrors.  An edit to one of
    them — harmless or not — breaks this obligation; the check then searches for a failing input
    with the correspondence streams (DESIGN.md section 2, step 5). -/
theorem C15_model_sources :
    Gen.modelSources.filter (fun e => e.1 ∈ ["CountPrintPrimes.printPrimes", "CountPrintPrimes.printkTuplets", "PrimeSieve.processSmallPrimes"]) =
     [("CountPrintPrimes.printPrimes", "7e98b8d4e0d08af4a7ee"),
      ("CountPrintPrimes.printkTuplets", "aa08210701ecd1a9c0e1"),
      ("PrimeSieve.processSmallPrimes", "aea93bdf6096ecdf2777")] :=
  Gen.modelSources_filter (by simp only [Gen.modelSources, sublist_step]) rfl

end Ps.Props
