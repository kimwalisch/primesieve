/-
  C13 — A failed allocation is reported, never turned into a crash or a wrong answer.
-/
import PsProofs.IterFault
import PsProps.C11
import PsProofs.Locks

namespace Ps.Props
open Ps Ps.Spec

/-- **C13 (iterator)** for every history of next/prev/jump_to/skipto/clear/move operations in which an
    arbitrary subset of the next_prime / prev_prime calls suffers an allocation failure: every
    call either returns exactly what the abstract cursor returns, or raises std::bad_alloc and
    leaves the cursor where it was — so continued use of the same iterator never yields a wrong
    prime (`FaultRun` is the set of output sequences a cursor admits under faults). -/
theorem C13_iterator_fault_safe (env : Env) (henv : EnvOK env) (s h : Nat) (hs : s ≤ umax)
    (ops : List FOp) (hwf : ∀ op ∈ ops, Op.WF op.base) :
    FaultRun (.fresh s) ops (Iter.runF env (Iter.mk' s h) ops) :=
  runF_sim henv ops _ _ (R_mk' s h hs) hwf

/-- a faulting call that has to refill raises bad_alloc and rolls back to the snapshot; a call that
    stays inside the buffer performs no allocation and is unaffected -/
theorem C13_fault_only_on_refill (env : Env) (st : Iter) (k : Nat) (h : ¬ st.i + 1 ≥ st.size) :
    st.nextFault env k = st.next env k :=
  if_neg h

/-- the state after a failed call is that of a freshly positioned iterator: nothing but the
    fixed IteratorData block is held, so it is destructible and resettable -/
theorem C13_state_after_failure (st : Iter) :
    (st.resetTo st.snapNext).buf = [] ∧ (st.resetTo st.snapNext).gen = none ∧
    (st.resetTo st.snapPrev).buf = [] ∧ (st.resetTo st.snapPrev).gen = none :=
  ⟨rfl, rfl, rfl, rfl⟩

/-- **C13 (C iterator)** the C handler turns any failure of generate_next_primes into the sticky error
    state: PRIMESIEVE_ERROR is returned, is_error and errno = EDOM are set -/
theorem C13_c_iterator_failure (env : Env) (c : CIter) (k : Nat) (e : Err)
    (hi : c.it.i + 1 ≥ c.it.size) (hf : cGenerateNext env k c.it = .error e) :
    (c.next env k).1 = umax ∧ (c.next env k).2.isError = true ∧ (c.next env k).2.edom = true := by
  rw [C11_error_state env c k e hi hf]
  exact ⟨rfl, rfl, rfl⟩

/-- non-vacuity: a history with a failing first call -/
example (env : Env) (henv : EnvOK env) :
    FaultRun (.fresh 10) [.nextFault 1, .plain (.next 1)]
      (Iter.runF env (Iter.mk' 10 100) [.nextFault 1, .plain (.next 1)]) :=
  C13_iterator_fault_safe env henv 10 100 (by decide) _ (by intro op hop; simp at hop; rcases hop with rfl | rfl <;> trivial)

/-- **C13 (model sources)** regenerated on every run: digests of the (comment-, hook- and whitespace-normalised) bodies of the
    functions that the hand-written model behind the theorems of this file mirrors.  An edit to one of
    them — harmless or not — breaks this obligation; the check then searches for a failing input
    with the correspondence streams (DESIGN.md section 2, step 5). -/
theorem C13_model_sources :
    Gen.modelSources.filter (fun e => e.1 ∈ ["iterator.generate_next_primes", "iterator.generate_prev_primes", "iterator-c.generate_next_primes", "iterator-c.generate_prev_primes"]) =
     [("iterator.generate_next_primes", "2a13a14724829f92f5fe"),
      ("iterator.generate_prev_primes", "1784049c687ca3b8c7e8"),
      ("iterator-c.generate_next_primes", "f2b77575cffe55b64d7e"),
      ("iterator-c.generate_prev_primes", "686803fbb620259da67e")] :=
  Gen.modelSources_filter (by simp only [Gen.modelSources, sublist_step]) rfl

end Ps.Props
