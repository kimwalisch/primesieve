/-
  C17 — Memory is bounded by sqrt(stop) and sieve size, not interval length; it is freed.
  What the model can carry: the lengths of the buffers the iterator asks for, and what
  jump_to / clear / a failed call leave behind.  Heap bytes are measured by the `mem` stream.
-/
import PsModel.Iterator
import PsProofs.Locks

namespace Ps.Props
open Ps

theorem inBetween_le_max (mn x mx : Nat) : inBetween mn x mx ≤ max mn (min x mx) ∨ inBetween mn x mx ≤ max mn mx :=
  Or.inl (inBetween_le_clamp mn x mx)

/-- **C17 (backward chunks)** the length of a backward chunk never depends on how long the iterator has
    been running (the `dist` of the previous chunk): whatever `dist` is, it is bounded by
    max(2·√stop, (MIN_CACHE_ITERATOR/8)·log stop) — O(√stop) — as long as that does not exceed the
    hard cap (MAX_CACHE_ITERATOR/8)·log stop and the tiny chunk 4·719 is below the soft cap. -/
theorem C17_prev_chunk_bounded (o : Oracle) (stop dist : Nat)
    (htiny : mul64 Gen.maxCachedPrime 4 ≤ mul64 (Gen.MIN_CACHE_ITERATOR / 8) (o.logU stop))
    (hcap : mul64 (Gen.MIN_CACHE_ITERATOR / 8) (o.logU stop) ≤ mul64 (Gen.MAX_CACHE_ITERATOR / 8) (o.logU stop)) :
    getPrevDist o stop dist ≤ max (o.sqrt2U stop) (mul64 (Gen.MIN_CACHE_ITERATOR / 8) (o.logU stop)) := by
  unfold getPrevDist
  simp only
  -- the lower bound of the outer `inBetween` is the inner one, which is at most its own upper bound
  have hin := (inBetween_range htiny (mul64 dist 4)).2
  exact Nat.le_trans (inBetween_le_clamp _ _ _) (by omega)

/-- **C17 (forward chunks)** the forward chunk length is at most 2^60 and at least the cached-prime range -/
theorem C17_next_dist_range (o : Oracle) (start dist : Nat) :
    Gen.maxCachedPrime ≤ getNextDist o start dist ∨ getNextDist o start dist = 1152921504606846976 := by
  unfold getNextDist inBetween
  simp only
  split <;> (try split) <;> omega

/-- **C17 (clear / jump_to)** after jump_to, clear or skipto the iterator holds no prime buffer and no
    generator: only the fixed IteratorData block stays allocated -/
theorem C17_reset_releases (st : Iter) (s h : Nat) :
    (st.jumpTo s h).buf = [] ∧ (st.jumpTo s h).gen = none ∧ (st.jumpTo s h).size = 0 ∧
    st.clear.buf = [] ∧ st.clear.gen = none ∧ (st.skipTo s h).buf = [] ∧ (st.skipTo s h).gen = none :=
  ⟨rfl, rfl, rfl, rfl, rfl, rfl, rfl⟩

/-- **C17 (backward buffers are dropped)** a backward refill replaces the buffer (the previous one is
    released) and never keeps a generator alive -/
theorem C17_prev_keeps_no_generator (env : Env) (st : Iter) : (genPrevLoop env st).gen = none := by
  fun_induction genPrevLoop env st with
  | case1 st u blk hb h2 hm ih => exact ih
  | case2 st u blk hb => rfl

/-- **C17 (model sources)** regenerated on every run: digests of the (comment-, hook- and whitespace-normalised) bodies of the
    functions that the hand-written model behind the theorems of this file mirrors.  An edit to one of
    them — harmless or not — breaks this obligation; the check then searches for a failing input
    with the correspondence streams (DESIGN.md section 2, step 5). -/
theorem C17_model_sources :
    Gen.modelSources.filter (fun e => e.1 ∈ ["iterator.jump_to", "iterator.clear", "IteratorHelper.getNextDist", "IteratorHelper.getPrevDist", "iterator-c.clear", "iterator-c.free_iterator"]) =
     [("iterator.jump_to", "130c2420f114441dcb1e"),
      ("iterator.clear", "aa40e08e21600bb96ea4"),
      ("IteratorHelper.getNextDist", "fe0225e589ca1011db71"),
      ("IteratorHelper.getPrevDist", "ccd93277a94283fb7359"),
      ("iterator-c.clear", "0bfc2a109ad41a52c480"),
      ("iterator-c.free_iterator", "92349951134908b1f05a")] :=
  Gen.modelSources_filter (by simp only [Gen.modelSources, sublist_step]) rfl

end Ps.Props
