/-
  C02 — Backward iteration yields exactly the primes ≤ start, then 0.
-/
import PsProofs.IterRun
import PsProofs.Locks

namespace Ps.Props
open Ps Ps.Spec

/-- **C02** n successive prev_prime calls on an iterator positioned at `t` (any stop hint,
    any float oracle) return `prevSeq t 0, prevSeq t 1, …`.  Every call returns (total
    function; the do/while loop is defined by well-founded recursion). -/
theorem C02_backward (env : Env) (henv : EnvOK env) (t h : Nat) (ht : t ≤ umax) (n : Nat) :
    Iter.run env (Iter.mk' t h) (List.replicate n Op.prev) =
      (List.range n).map (fun j => Out.val (prevSeq t j)) :=
  run_prev henv (R_mk' t h ht) n

/-- `prevSeq t` enumerates exactly the primes ≤ t, strictly descending, then 0 forever. -/
theorem C02_sequence_exact (t : Nat) :
    (∀ j, prevSeq t j = 0 ∨ ((prevSeq t j).Prime ∧ prevSeq t j ≤ t)) ∧
    (∀ j, prevSeq t j ≠ 0 → prevSeq t (j + 1) < prevSeq t j) ∧
    (∀ j, prevSeq t j = 0 → prevSeq t (j + 1) = 0) ∧
    (∀ p, p.Prime → p ≤ t → ∃ j, prevSeq t j = p) :=
  ⟨fun j => (prevSeq_zero_or_prime t j).imp id (fun hp => ⟨hp, prevSeq_le t j⟩),
   fun j h => prevSeq_succ_lt t j h,
   fun j h => prevSeq_zero_sticky t j h,
   fun p hp hs => prevSeq_complete t p hp hs⟩

/-- non-vacuity: from 3 the outputs are 3, 2, 0, 0 -/
example : prevSeq 3 0 = 3 ∧ prevSeq 3 1 = 2 ∧ prevSeq 3 2 = 0 ∧ prevSeq 3 3 = 0 := by
  have h3 : prevPrime 3 = 3 := prevPrime_of_prime Nat.prime_three
  have h2 : prevPrime 2 = 2 := prevPrime_of_prime Nat.prime_two
  have h1 : prevPrime 1 = 0 := prevPrime_of_le_one (Nat.le_refl 1)
  have h0 : prevPrime 0 = 0 := prevPrime_of_le_one (Nat.zero_le 1)
  simp only [prevSeq, h3, h2, h1, h0, and_self]

/-- **C02 (model sources)** regenerated on every run: digests of the (comment-, hook- and whitespace-normalised) bodies of the
    functions that the hand-written model behind the theorems of this file mirrors.  An edit to one of
    them — harmless or not — breaks this obligation; the check then searches for a failing input
    with the correspondence streams (DESIGN.md section 2, step 5). -/
theorem C02_model_sources :
    Gen.modelSources.filter (fun e => e.1 ∈ ["iterator.generate_prev_primes", "iterator.hpp.prev_prime", "IteratorHelper.updatePrev", "IteratorHelper.getPrevDist", "PrimeGenerator.initPrevPrimes", "PrimeGenerator.sievePrevPrimes", "PrimeGenerator_default.fillPrevPrimes", "PrimeGenerator_avx512.fillPrevPrimes"]) =
     [("iterator.generate_prev_primes", "1784049c687ca3b8c7e8"),
      ("iterator.hpp.prev_prime", "57cdaf17aeb89aae2176"),
      ("IteratorHelper.updatePrev", "d669145275de3ba547da"),
      ("IteratorHelper.getPrevDist", "ccd93277a94283fb7359"),
      ("PrimeGenerator.initPrevPrimes", "c25f6557e8833fa27b53"),
      ("PrimeGenerator.sievePrevPrimes", "a0a1b531086492c7ee6c"),
      ("PrimeGenerator_default.fillPrevPrimes", "0272d4b8fe4d0a8ef7e2"),
      ("PrimeGenerator_avx512.fillPrevPrimes", "37502b8750d9600d675d")] :=
  Gen.modelSources_filter (by simp only [Gen.modelSources, sublist_step]) rfl

end Ps.Props
