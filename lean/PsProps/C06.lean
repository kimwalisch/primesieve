/-
  C06 — generate_primes / generate_n_primes store exactly the requested primes.
-/
import PsProofs.Store
import PsProofs.Locks

namespace Ps.Props
open Ps Ps.Spec

/-- **C06 (generate_primes)** for every start, stop < 2^64, every element type (vmax = its largest value),
    every block-length policy `kf`, float oracle and stop hint behaviour: `store_primes` appends
    nothing for an empty request (start > stop, or start above the largest 64-bit prime), throws
    before storing anything when stop > vmax, and otherwise appends exactly the primes of
    [start, stop] in ascending order.  `fuel` bounds the number of generate_next_primes() calls of
    the block loop; stop + 2 - start always suffices, i.e. the loop terminates. -/
theorem C06_store_primes {env : Env} (h : EnvOK env) (kf : Nat → Nat) (fuel start stop vmax : Nat)
    (hstop : stop ≤ umax) (hfuel : stop + 2 ≤ fuel + start) :
    storePrimes env kf fuel start stop vmax = some (
      if start > stop ∨ start > storeMaxPrime then .ok []
      else if stop > vmax then .throw [] .invalid
      else .ok (primesIn start stop)) := by
  have hm : maxPrime64 = 18446744073709551557 := rfl
  unfold storePrimes
  rw [storeMaxPrime_eq]
  by_cases h1 : start > stop
  · simp [h1]
  by_cases h2 : start > maxPrime64
  · simp [h1, h2]
  by_cases h3 : stop > vmax
  · simp [h1, h2, h3]
  simp only [h1, h2, h3, if_false, false_or]
  have hf := BInv.fresh h (kf 0) start stop (by omega)
  cases hr : (Iter.mk' start stop).generateNext env (kf 0) with
  | error e =>
    rw [hr] at hf
    exact absurd hf.2 (Nat.not_le.2 (nextPrime_lt_U64_iff.2 (by omega)))
  | ok it =>
    rw [hr] at hf
    have hhead := le_nextPrime start
    rw [← hf.head] at hhead
    obtain ⟨it', acc', hsb, hall⟩ := storeBlocks_spec h (min stop (maxPrime64 - 1)) kf (by omega)
      fuel 1 hf (by omega) (by omega) (by omega)
    simp only [hsb, hall]
    refine congrArg some (congrArg StoreRes.ok ?_)
    split
    · rw [show min stop (maxPrime64 - 1) + 1 = maxPrime64 by omega,
        ← primesHO_top (stop := stop) (by omega) hstop]
      exact primesHO_append (by omega) (by omega)
    · rw [show min stop (maxPrime64 - 1) = stop by omega]
      rfl

/-- **C06 (no truncation)** whatever `store_primes` appends fits the element type -/
theorem C06_no_truncation {env : Env} (h : EnvOK env) (kf : Nat → Nat) (fuel start stop vmax : Nat)
    (hstop : stop ≤ umax) (hfuel : stop + 2 ≤ fuel + start) (app : List Nat)
    (hr : storePrimes env kf fuel start stop vmax = some (.ok app)) : ∀ x ∈ app, x ≤ vmax := by
  rw [C06_store_primes h kf fuel start stop vmax hstop hfuel] at hr
  intro x hx
  split at hr
  · cases hr; cases hx
  · split at hr
    · cases hr
    · rename_i h1 h2
      cases hr
      have := (mem_primesHO.1 hx).2.1
      omega

/-- **C06 / C01 (blocks)** every `generate_next_primes()` on an iterator holding a block hands out a
    non-empty block of consecutive primes that starts with the prime following the last prime of
    the previous block — so the concatenated blocks are the primes in order, none skipped — or
    fails because that prime does not fit in 64 bits. -/
theorem C06_next_block {env : Env} (h : EnvOK env) (k : Nat) (st : Iter) (hinv : AtInv st) :
    match st.generateNext env k with
    | .error e => e = .overflow ∧ ¬ nextPrime (st.buf.getD (st.size - 1) 0 + 1) < U64
    | .ok st' => nextPrime (st.buf.getD (st.size - 1) 0 + 1) < U64 ∧ st'.i = 0 ∧
        st'.buf.getD 0 0 = nextPrime (st.buf.getD (st.size - 1) 0 + 1) ∧ AtInv st' ∧ st'.hint = st.hint :=
  generateNext_at h k st hinv

/-- **C06 (generate_n_primes)** for every n, start < 2^64, element type, block-length policy, stop hint and float oracle
    (fuel ≥ n bounds the refills: each block removes at least one prime from the count, so the loop
    terminates): `store_n_primes` appends exactly the first n primes ≥ start — `primeSeq start 0 … n-1`
    — when the n-th of them fits the element type and 64 bits; otherwise it throws, and what it has
    appended by then is an EXACT PREFIX of the requested primes (never a truncated value, never a
    gap).  It throws only in that case. -/
theorem C06_store_n_primes {env : Env} (h : EnvOK env) (kf : Nat → Nat) (fuel n start hintStop vmax : Nat)
    (hs : start ≤ umax) (hfuel : n ≤ fuel) :
    ∃ r, storeNPrimes env kf fuel n start hintStop vmax = some r ∧
      match r with
      | .ok app => app = firstN start n ∧ (n = 0 ∨ (primeSeq start (n - 1) ≤ vmax ∧ primeSeq start (n - 1) < U64))
      | .throw app _ => (∃ k, k < n ∧ app = firstN start k) ∧
          ¬ (primeSeq start (n - 1) ≤ vmax ∧ primeSeq start (n - 1) < U64) := by
  unfold storeNPrimes
  split
  · subst n; exact ⟨_, rfl, rfl, Or.inl rfl⟩
  have hf := BInv.fresh h (kf 0) start hintStop hs
  cases hr : (Iter.mk' start hintStop).generateNext env (kf 0) with
  | error e =>
    rw [hr] at hf
    refine ⟨_, rfl, ⟨0, by omega, rfl⟩, fun hc => ?_⟩
    have : primeSeq start 0 ≤ primeSeq start (n - 1) := primeSeq_mono start (Nat.zero_le _)
    exact absurd (Nat.lt_of_le_of_lt this hc.2) (Nat.not_lt.2 hf.2)
  | ok it =>
    rw [hr] at hf
    obtain ⟨r, hsb, hspec⟩ := storeNBlocks_spec h start n vmax kf fuel 1 n it [] start ⟨hf, by simp, by omega⟩ hfuel
    rcases r with ⟨acc', e⟩ | ⟨rem', it', acc'⟩ <;> simp only [hsb]
    · exact ⟨_, rfl, hspec⟩
    · rcases hspec with ⟨h0, hacc, hv⟩ | ⟨hlt, c', hi'⟩
      · simp only [h0, if_true]
        exact ⟨_, rfl, hacc, Or.inr hv⟩
      · obtain ⟨hel, hlt64⟩ := hi'.last (Nat.le_of_lt hlt)
        rw [if_neg (Nat.ne_of_gt hi'.pos), hel]
        split
        · exact ⟨_, rfl, hi'.stored, fun hc => by omega⟩
        · exact ⟨_, rfl, hi'.take (Nat.le_of_lt hlt), Or.inr ⟨by omega, hlt64⟩⟩

/-- the store constant is the largest 64-bit prime -/
theorem C06_storeMaxPrime : storeMaxPrime.Prime ∧ ∀ n, storeMaxPrime < n → n < U64 → ¬ n.Prime :=
  ⟨maxPrime64_prime, no_prime_above⟩

/-- non-vacuity: generate_primes(0, 30) into a uint8_t vector -/
example {env : Env} (h : EnvOK env) (kf : Nat → Nat) :
    storePrimes env kf 40 0 30 255 = some (.ok [2, 3, 5, 7, 11, 13, 17, 19, 23, 29]) := by
  rw [C06_store_primes h kf 40 0 30 255 (by decide) (by decide)]
  have : primesIn 0 30 = [2, 3, 5, 7, 11, 13, 17, 19, 23, 29] := by decide
  simp [this, storeMaxPrime]

/-- **C06 (model sources)** regenerated on every run: digests of the (comment-, hook- and whitespace-normalised) bodies of the
    functions that the hand-written model behind the theorems of this file mirrors.  An edit to one of
    them — harmless or not — breaks this obligation; the check then searches for a failing input
    with the correspondence streams (DESIGN.md section 2, step 5). -/
theorem C06_model_sources :
    Gen.modelSources.filter (fun e => e.1 ∈ ["StorePrimes.store_primes", "StorePrimes.store_n_primes"]) =
     [("StorePrimes.store_primes", "4822590d45cd97f2ec4e"),
      ("StorePrimes.store_n_primes", "a0d4fce611b25b96f3b9")] :=
  Gen.modelSources_filter (by simp only [Gen.modelSources, sublist_step]) rfl

end Ps.Props
