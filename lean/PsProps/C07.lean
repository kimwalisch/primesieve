/-
  C07 — nth_prime(n, start) returns exactly the documented prime or fails.
  Value theorem for every n and start, for arbitrary approximation functions; argument validation;
  the n = 0 mapping; absence of the INT64_MIN negation.
-/
import PsModel.NthPrime
import PsProofs.NthPrime
import PsProps.C04
import PsProofs.Locks

namespace Ps.Props
open Ps Ps.Spec

/-- **C07 (extreme n)** every n outside [-π(2^64), π(2^64)] — in particular INT64_MIN, whose negation
    would be signed overflow — is rejected with primesieve_error before any arithmetic on n, for
    every start, approximation oracle, count function and block policy. -/
theorem C07_extreme_n_rejected (env : Env) (kf : Nat → Nat) (cnt : Nat → Nat → Nat) (o : NthOracle)
    (n : Int) (start : Nat) (h : n < -(max_n : Int) ∨ (max_n : Int) < n) :
    nthPrime env kf cnt o n start = .error .invalid := by
  have : (0 : Int) ≤ (max_n : Int) := Int.natCast_nonneg _
  rcases h with h | h
  · rw [Nth.nthPrime_neg _ _ _ _ (by omega), if_pos h]
  · rw [Nth.nthPrime_pos _ _ _ _ (by omega), nthPrimePos, if_pos (by omega)]

/-- the only negation performed is on values in [-π(2^64), -1]: `-n` fits int64 -/
theorem C07_negation_in_range (n : Int) (h0 : n < 0) (h : ¬ n < -(max_n : Int)) :
    int64Min < n ∧ -n ≤ int64Max := by
  unfold int64Min int64Max
  have : (max_n : Int) = 425656284035217743 := rfl
  omega

/-- **C07 (n = 0)** nth_prime(0, start) is "the 1st prime > start - 1", i.e. the first prime ≥ start
    (documented behaviour; for start = 0 the saturating subtraction keeps 0 and 2 is returned). -/
theorem C07_zero_maps_to_first (env : Env) (kf : Nat → Nat) (cnt : Nat → Nat → Nat) (o : NthOracle)
    (start : Nat) :
    nthPrime env kf cnt o 0 start = nthPrimePos env kf cnt o 1 (start - 1) := by
  rw [nthPrime, if_neg (Int.lt_irrefl 0), if_pos rfl, checkedSub_eq]

/-- **C07 (negative n)** fewer than |n| numbers below start: rejected -/
theorem C07_negative_needs_room (env : Env) (kf : Nat → Nat) (cnt : Nat → Nat → Nat) (o : NthOracle)
    (m start : Nat) (hm : 0 < m) (h : start ≤ m) :
    nthPrime env kf cnt o (-(m : Int)) start = .error .invalid := by
  rw [Nth.nthPrime_neg _ _ _ _ (by omega), nthPrimeNeg, show (-(-(m : Int))).toNat = m by simp]
  split
  · rfl
  · split <;> rfl

/-- **C07 (value)** for EVERY int64 n with |n| ≤ π(2^64), every start < 2^64, every approximation oracle
    (primePiApprox / nthPrimeApprox / avgPrimeGap / isqrt may return anything that fits 64 bits),
    every generator block policy, and any count function that returns the number of primes of an
    interval (C04): nth_prime(n, start) is
    * n > 0: the n-th prime > start — `primeSeq (start+1) (n-1)` — or an error if that is ≥ 2^64;
    * n = 0: the first prime ≥ start, or an error if there is none below 2^64;
    * n < 0: the |n|-th prime < start — `prevSeq (start-1) (|n|-1)` — or an error when fewer than
      |n| primes lie below start.  It never returns any other number. -/
theorem C07_nth_value {env : Env} (henv : EnvOK env) (kf : Nat → Nat) (cnt : Nat → Nat → Nat)
    (hcnt : ∀ a b, cnt a b = (primesIn a b).length) (o : NthOracle) (ho : ∀ x, o.nthA x ≤ umax)
    (n : Int) (start : Nat) (hs : start ≤ umax) (hlo : -(max_n : Int) ≤ n) (hhi : n ≤ (max_n : Int)) :
    nthPrime env kf cnt o n start =
      if 0 < n then
        (if primeSeq (start + 1) (n.toNat - 1) < U64 then .ok (primeSeq (start + 1) (n.toNat - 1)) else .error .overflow)
      else if n = 0 then
        (if nextPrime start < U64 then .ok (nextPrime start) else .error .overflow)
      else
        (if (-n).toNat ≥ start ∨ prevSeq (start - 1) ((-n).toNat - 1) = 0 then .error .invalid
         else .ok (prevSeq (start - 1) ((-n).toNat - 1))) := by
  by_cases hneg : n < 0
  · rw [Nth.nthPrime_neg _ _ _ _ hneg, if_neg (by omega), if_neg (by omega), if_neg (by omega)]
    exact Nth.nthPrimeNeg_value henv kf cnt hcnt o _ start (by omega) (by omega) hs
  · by_cases h0 : n = 0
    · subst h0
      rw [C07_zero_maps_to_first, Nth.nthPrimePos_value henv kf cnt hcnt o ho 1 _ (by omega) (by decide) (by omega)]
      simp only [Int.lt_irrefl, if_false, if_true, Nat.sub_self, primeSeq]
      -- start - 1 + 1 differs from start only at 0, which is not prime
      rw [← nextPrime_eq_nextPrime (x := start) (y := start - 1 + 1) (by omega) fun q h1 h2 => by
        rw [show q = 0 by omega]; exact Nat.not_prime_zero]
    · rw [Nth.nthPrime_pos _ _ _ _ (by omega), if_pos (by omega)]
      exact Nth.nthPrimePos_value henv kf cnt hcnt o ho _ start (by omega) (by omega) hs

/-- the count function of the model (C04) satisfies the hypothesis of `C07_nth_value` -/
theorem C07_count_hypothesis {isP : Nat → Bool} (hP : IsPrimeOK isP) (a b : Nat) :
    (primeSieveCounts isP a b 1).getD 0 0 = (primesIn a b).length := by
  rw [C04_count_single hP a b 1 (by decide), C04_agrees_with_enumeration]

/-- **C07 (model sources)** regenerated on every run: digests of the (comment-, hook- and whitespace-normalised) bodies of the
    functions that the hand-written model behind the theorems of this file mirrors.  An edit to one of
    them — harmless or not — breaks this obligation; the check then searches for a failing input
    with the correspondence streams (DESIGN.md section 2, step 5). -/
theorem C07_model_sources :
    Gen.modelSources.filter (fun e => e.1 ∈ ["nthPrime.nthPrime", "nthPrime.negativeNthPrime"]) =
     [("nthPrime.nthPrime", "0c3c71e817bf09a16b5a"),
      ("nthPrime.negativeNthPrime", "7eb8fa87daaeafd100a8")] :=
  Gen.modelSources_filter (by simp only [Gen.modelSources, sublist_step]) rfl

end Ps.Props
