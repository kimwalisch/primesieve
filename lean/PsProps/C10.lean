/-
  C10 — Exact up to 2^64-1; requests beyond fail instead of wrapping.
-/
import PsProofs.IterRun
import PsProofs.MaxPrime
import PsProofs.Locks
import PsProofs.Wheel

namespace Ps.Props
open Ps Ps.Spec

/-- **C10** 18446744073709551557 is prime (Lucas certificate, kernel-checked) -/
theorem C10_maxPrime64_prime : Nat.Prime 18446744073709551557 := maxPrime64_prime

/-- **C10** there is no prime p with 18446744073709551557 < p < 2^64 -/
theorem C10_no_prime_above (n : ℕ) (h1 : 18446744073709551557 < n) (h2 : n < 2 ^ 64) : ¬ n.Prime :=
  no_prime_above n h1 (by rw [U64_eq]; exact h2)

/-- **C10 (iterator)** whatever the iterator returns is at most the largest 64-bit prime:
    every value of the forward enumeration that fits in 64 bits is ≤ 18446744073709551557. -/
theorem C10_forward_values_le_max (s j : Nat) (h : primeSeq s j < U64) : primeSeq s j ≤ maxPrime64 := by
  by_contra hgt
  exact no_prime_above _ (by omega) h (primeSeq_prime s j)

/-- **C10 (iterator)** an iterator positioned at the largest 64-bit prime returns it and then
    fails with primesieve_error on every further next_prime() call (no wrap-around, no
    garbage value), for every stop hint, block policy and float oracle. -/
theorem C10_iterator_top (env : Env) (henv : EnvOK env) (h : Nat) (ks : List Nat) :
    Iter.run env (Iter.mk' maxPrime64 h) (ks.map Op.next) =
      (List.range ks.length).map (fun j => if j = 0 then Out.val maxPrime64 else Out.err .overflow) := by
  refine (run_next henv (R_mk' maxPrime64 h (by decide)) ks).trans (List.map_congr_left fun j _ => ?_)
  show fwdOut maxPrime64 j = _
  cases j with
  | zero =>
    rw [fwdOut, show primeSeq maxPrime64 0 = maxPrime64 from nextPrime_of_prime maxPrime64_prime,
      if_pos maxPrime64_lt_U64]
    rfl
  | succ j =>
    -- the search for this prime starts above maxPrime64
    exact if_neg fun hlt => absurd (Nat.lt_of_le_of_lt (primeSeq_ge _ j) (nextPrime_lt_U64_iff.1 hlt))
      (Nat.lt_irrefl _)

/-- **C10** `checkedAdd` saturates instead of wrapping -/
theorem C10_checkedAdd (x y : Nat) :
    checkedAdd x y = min (x + y) umax := checkedAdd_eq x y

/-- **C10** `checkedSub` saturates at 0 instead of wrapping -/
theorem C10_checkedSub (x y : Nat) : checkedSub x y = x - y := checkedSub_eq x y

/-- **C10 (sieve core: failure instead of wrap)** Wheel::addSievingPrime on the regenerated INIT tables, for EVERY sieving prime
    p < 2^32 coprime to 30 (sieving primes are ≤ √stop), every segment start L ≡ 0 (mod 30) with L + 6 < 2^64
    and every stop < 2^64 — in particular segments ending at 2^64 - 1, where p·q exceeds 2^64:
    (1) computed with wrapping uint64_t arithmetic it returns exactly what it returns over unbounded
    integers (the guard `multiple < segmentLow` catches every wrapped product, the second guard is only
    evaluated when it cannot underflow);
    (2) if it stores the prime, the stored state denotes p·q for the LEAST q ≥ max(p, ⌊(L+6)/p⌋+1) coprime
    to the wheel modulus, and p·q ≤ stop;
    (3) if it drops the prime, every admissible multiple of p above the segment start exceeds stop. -/
theorem C10_addSievingPrime_no_wrap (stop p L : Nat) (hp : Nat.gcd (p % 30) 30 = 1) (hp0 : 0 < p) (hp32 : p < 4294967296)
    (hL : L % 30 = 0) (hL6 : L + 6 < U64) (hstop : stop < U64) :
    (Wheel.addSievingPrime 30 8 Gen.wheel30Init stop p L = Wheel.addSievingPrimeExact 30 8 Gen.wheel30Init stop p L ∧
     Wheel.addSievingPrime 210 48 Gen.wheel210Init stop p L = Wheel.addSievingPrimeExact 210 48 Gen.wheel210Init stop p L) ∧
    (∀ s, Wheel.addSievingPrime 210 48 Gen.wheel210Init stop p L = some s →
      ∃ q, Wheel.Denotes 210 L s q ∧ max p ((L + 6) / p + 1) ≤ q ∧ p * q ≤ stop ∧
        (∀ x, max p ((L + 6) / p + 1) ≤ x → x < q → Nat.gcd x 210 ≠ 1)) ∧
    (∀ s, Wheel.addSievingPrime 30 8 Gen.wheel30Init stop p L = some s →
      ∃ q, Wheel.Denotes 30 L s q ∧ max p ((L + 6) / p + 1) ≤ q ∧ p * q ≤ stop ∧
        (∀ x, max p ((L + 6) / p + 1) ≤ x → x < q → Nat.gcd x 30 ≠ 1)) ∧
    (Wheel.addSievingPrime 210 48 Gen.wheel210Init stop p L = none →
      ∀ x, max p ((L + 6) / p + 1) ≤ x → Nat.gcd x 210 = 1 → stop < p * x) ∧
    (Wheel.addSievingPrime 30 8 Gen.wheel30Init stop p L = none →
      ∀ x, max p ((L + 6) / p + 1) ≤ x → Nat.gcd x 30 = 1 → stop < p * x) := by
  have e30 := Wheel.addSievingPrime_eq_exact Wheel.good30 stop p L hp0 hp32 hL6 hstop
  have e210 := Wheel.addSievingPrime_eq_exact Wheel.good210 stop p L hp0 hp32 hL6 hstop
  refine ⟨⟨e30, e210⟩, ?_⟩
  rw [e30, e210]
  exact ⟨fun s h => have ⟨q, h1, h2, h3, h4, _⟩ := Wheel.addSievingPrimeExact_spec Wheel.good210 stop p L hp hp0 hL s h
      ⟨q, h1, h2, h3, h4⟩,
    fun s h => have ⟨q, h1, h2, h3, h4, _⟩ := Wheel.addSievingPrimeExact_spec Wheel.good30 stop p L hp hp0 hL s h
      ⟨q, h1, h2, h3, h4⟩,
    Wheel.addSievingPrimeExact_none Wheel.good210 stop p L, Wheel.addSievingPrimeExact_none Wheel.good30 stop p L⟩

/-- **C10 (model sources)** regenerated on every run: digests of the (comment-, hook- and whitespace-normalised) bodies of the
    functions that the hand-written model behind the theorems of this file mirrors.  An edit to one of
    them — harmless or not — breaks this obligation; the check then searches for a failing input
    with the correspondence streams (DESIGN.md section 2, step 5). -/
theorem C10_model_sources :
    Gen.modelSources.filter (fun e => e.1 ∈ ["ParallelSieve.align", "pmath.checkedAdd", "pmath.checkedSub", "pmath.inBetween"]) =
     [("ParallelSieve.align", "60dc0866ae1c2879bdbc"),
      ("pmath.checkedAdd", "4fb81eb990b73946889d"),
      ("pmath.checkedSub", "fafc1440897134234d4b"),
      ("pmath.inBetween", "522b4f74f8bd12b4cba0")] :=
  Gen.modelSources_filter (by simp only [Gen.modelSources, sublist_step]) rfl

end Ps.Props
