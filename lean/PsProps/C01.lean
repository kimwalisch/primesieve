/-
  C01 — Forward iteration yields exactly the primes ≥ start, in order.
-/
import PsProofs.IterRun
import PsProofs.Wheel
import PsProofs.PreSieve
import PsProofs.Segments
import PsProofs.SegmentCorrect
import PsProofs.Feed
import PsProofs.TinySieve
import PsProofs.Schedule
import PsProofs.Locks

namespace Ps.Props
open Ps Ps.Spec

/-- **C01** n successive next_prime calls on an iterator positioned at `s` (any stop hint `h`,
    any generator block lengths `ks`, any float oracle) return `primeSeq s 0, primeSeq s 1, …`
    as long as these are below 2^64 and `primesieve_error` afterwards.  Every call returns:
    `Iter.run` is a total function whose loops are defined by well-founded recursion. -/
theorem C01_forward (env : Env) (henv : EnvOK env) (s h : Nat) (hs : s ≤ umax) (ks : List Nat) :
    Iter.run env (Iter.mk' s h) (ks.map Op.next) = (List.range ks.length).map (fwdOut s) := by
  exact run_next henv (R_mk' s h hs) ks

/-- `primeSeq s` enumerates exactly the primes ≥ s, strictly ascending:
    no composite, no duplicate, no prime skipped. -/
theorem C01_sequence_exact (s : Nat) :
    (∀ j, (primeSeq s j).Prime ∧ s ≤ primeSeq s j) ∧
    (∀ i j, i < j → primeSeq s i < primeSeq s j) ∧
    (∀ p, p.Prime → s ≤ p → ∃ j, primeSeq s j = p) :=
  ⟨fun j => ⟨primeSeq_prime s j, primeSeq_ge s j⟩,
   fun _ _ h => primeSeq_strictMono s h,
   fun p hp hs => primeSeq_complete s p hp hs⟩

/-- **C01 (blocks)** every block handed out by `generate_next_primes` is non-empty. -/
theorem C01_blocks_nonempty (env : Env) (_henv : EnvOK env) (k : Nat) (st st' : Iter)
    (hs : st.stop ≤ umax) (hok : genNextFresh env k st = .ok st') :
    st'.size = st'.buf.length ∧ st'.buf ≠ [] := by
  have hp := genNextFresh_spec _henv k st hs
  rw [hok] at hp
  obtain ⟨-, -, -, hinv, -⟩ := hp
  exact (atInv_buf hinv).symm

/-- non-vacuity: the first three outputs from 0 are 2, 3, 5 -/
example : primeSeq 0 0 = 2 ∧ primeSeq 0 1 = 3 ∧ primeSeq 0 2 = 5 := by
  have h2 : nextPrime 0 = 2 := nextPrime_of_le_two (Nat.zero_le 2)
  have h3 : nextPrime 3 = 3 := nextPrime_eq_of (Nat.le_refl 3) Nat.prime_three (by intro q h1 h2; omega)
  have h5 : nextPrime 4 = 5 := nextPrime_eq_of (by omega) Nat.prime_five (by
    intro q h1 h2; obtain rfl : q = 4 := by omega
    exact Nat.not_prime_mul (a := 2) (b := 2) (by omega) (by omega))
  simp only [primeSeq, h2, h3, h5, and_self]

end Ps.Props

namespace Ps.Props
open Ps Ps.Wheel

/-- **C01 (cross-off tables)** regenerated from EratSmall.cpp, EratMedium.cpp, EratBig.cpp, LookupTables.cpp, Wheel.hpp and
    bits.hpp on every run and compared by the kernel with their arithmetic specification: all 64
    single-step rows of EratSmall and of EratMedium, the 8 unrolled loops of EratSmall (= 8 steps),
    all 384 rows of wheel210, both INIT tables of addSievingPrime (30 + 210 entries), wheelOffsets_
    and the bit masks.  A single changed entry breaks this theorem. -/
theorem C01_crossoff_tables :
    Gen.eratMediumRows = (specRows 30).map (fun r => (r.1, r.2.1, r.2.2.1)) ∧
    Gen.eratSmallRows = (specRows 30).map (fun r => (r.1, r.2.1, r.2.2.1)) ∧
    Gen.wheel210 = specRows 210 ∧
    Gen.wheel30Init = (List.range 30).map (specInit 30) ∧
    Gen.wheel210Init = (List.range 210).map (specInit 210) ∧
    (∀ r, r < 8 → Gen.wheelOffsetUnits.getD (primeRes.getD r 0) 0 = r) ∧
    Gen.bitMasks = (List.range 8).map (fun k => 255 - 2 ^ k) ∧
    Gen.eratSmallUnrolled.map (fun u => u.2.2.2.2.2) = ((List.range 8).map unrolledSpec).map (fun u => u.2.2.2.2.2) ∧
    Gen.eratBigStepShape = true ∧ Gen.multipleIndexBits = 23 :=
  ⟨eratMediumRows_spec, eratSmallRows_spec, wheel210_spec, wheel30Init_spec, wheel210Init_spec, wheelOffsets_spec,
   bitMasks_spec, eratSmallUnrolled_spec.2, rfl, rfl⟩

/-- **C01 (one cross-off step)** for EVERY sieving prime p = 30·sp + pr and EVERY quotient q: if the stored state
    denotes the multiple p·q (at byte idx, bit b of the segment starting at L), then one step of
    EratMedium / EratSmall on the regenerated rows clears exactly bit b and the new state denotes
    p·q' where q' > q is the NEXT quotient coprime to 30 — no admissible multiple is skipped, no
    inadmissible one is visited.  The same holds for EratBig's wheel210 step modulo 210. -/
theorem C01_crossoff_step (L sp idx w q : Nat) :
    (w < 64 → Denotes 30 L ⟨sp, idx, w⟩ q →
      (step30 Gen.eratMediumRows ⟨sp, idx, w⟩).1 = (specRow 30 (w / 8) (w % 8)).1 ∧
      step30 Gen.eratSmallRows ⟨sp, idx, w⟩ = step30 Gen.eratMediumRows ⟨sp, idx, w⟩ ∧
      Denotes 30 L (step30 Gen.eratMediumRows ⟨sp, idx, w⟩).2 (q + (specRow 30 (w / 8) (w % 8)).2.1) ∧
      0 < (specRow 30 (w / 8) (w % 8)).2.1 ∧
      (∀ d, 0 < d → d < (specRow 30 (w / 8) (w % 8)).2.1 → Nat.gcd (q + d) 30 ≠ 1)) ∧
    (w < 384 → Denotes 210 L ⟨sp, idx, w⟩ q →
      (step210 ⟨sp, idx, w⟩).1 = (specRow 210 (w / 48) (w % 48)).1 ∧
      Denotes 210 L (step210 ⟨sp, idx, w⟩).2 (q + (specRow 210 (w / 48) (w % 48)).2.1) ∧
      0 < (specRow 210 (w / 48) (w % 48)).2.1 ∧
      (∀ d, 0 < d → d < (specRow 210 (w / 48) (w % 48)).2.1 → Nat.gcd (q + d) 210 ≠ 1)) := by
  constructor
  · intro hw h
    obtain ⟨hd, hgap, -, hskip⟩ := step_sound good30 h
    simp only [gapOf, good30.size_eq] at hd hgap hskip
    rw [step30_small_eq w hw, step30_medium_eq w hw]
    exact ⟨rfl, rfl, hd, hgap, hskip⟩
  · intro hw h
    obtain ⟨hd, hgap, -, hskip⟩ := step_sound good210 h
    simp only [gapOf, good210.size_eq] at hd hgap hskip
    rw [step210_eq w hw]
    exact ⟨rfl, hd, hgap, hskip⟩

/-- **C01 (walk)** n steps from a state denoting p·q₀ visit, in increasing order and without omission, exactly the
    quotients ≥ q₀ coprime to the wheel's modulus -/
theorem C01_crossoff_walk_exact (L n : Nat) (s : SP) (q : Nat) :
    (Denotes 30 L s q → Denotes 30 L (walk 30 n s q).1 (walk 30 n s q).2 ∧ q ≤ (walk 30 n s q).2 ∧
      (∀ x, q ≤ x → x < (walk 30 n s q).2 → Nat.gcd x 30 = 1 → ∃ j, j < n ∧ (walk 30 j s q).2 = x)) ∧
    (Denotes 210 L s q → Denotes 210 L (walk 210 n s q).1 (walk 210 n s q).2 ∧ q ≤ (walk 210 n s q).2 ∧
      (∀ x, q ≤ x → x < (walk 210 n s q).2 → Nat.gcd x 210 = 1 → ∃ j, j < n ∧ (walk 210 j s q).2 = x)) :=
  ⟨fun h => (walk_exact good30 L n s q h).imp id (.imp Nat.le_of_add_right_le id),
   fun h => (walk_exact good210 L n s q h).imp id (.imp Nat.le_of_add_right_le id)⟩

/-- **C01 (first multiple)** Wheel::addSievingPrime on the regenerated INIT tables, products below 2^64: the prime
    is stored with a state denoting p·q for the LEAST q ≥ max(p, ⌊(L+6)/p⌋ + 1) coprime to the
    modulus (so nothing between the segment start and that multiple is missed), and p·q ≤ stop -/
theorem C01_first_multiple (stop p L : Nat) (hp : Nat.gcd (p % 30) 30 = 1) (hp0 : 0 < p) (hL : L % 30 = 0)
    (hnw : L + 6 < U64) (hnw2 : p * (max p ((L + 6) / p + 1) + 210) < U64) (hstop : stop < U64) (s : SP) :
    (addSievingPrime 30 8 Gen.wheel30Init stop p L = some s →
      ∃ q, Denotes 30 L s q ∧ max p ((L + 6) / p + 1) ≤ q ∧ p * q ≤ stop ∧
        (∀ x, max p ((L + 6) / p + 1) ≤ x → x < q → Nat.gcd x 30 ≠ 1) ∧ s.sp = p / 30) ∧
    (addSievingPrime 210 48 Gen.wheel210Init stop p L = some s →
      ∃ q, Denotes 210 L s q ∧ max p ((L + 6) / p + 1) ≤ q ∧ p * q ≤ stop ∧
        (∀ x, max p ((L + 6) / p + 1) ≤ x → x < q → Nat.gcd x 210 ≠ 1) ∧ s.sp = p / 30) := by
  -- a product p·(p + …) below 2^64 forces p < 2^32, and then the wrapping function is the exact one
  have h32 := lt_2_32_of_sq_lt (Nat.mul_le_mul_left p (by omega)) hnw2
  rw [addSievingPrime_eq_exact good30 stop p L hp0 h32 hnw hstop, addSievingPrime_eq_exact good210 stop p L hp0 h32 hnw hstop]
  exact ⟨addSievingPrimeExact_spec good30 stop p L hp hp0 hL s, addSievingPrimeExact_spec good210 stop p L hp hp0 hL s⟩

/-- **C01 (pre-sieve)** all 16 tables of PreSieveTables.hpp (126 330 bytes, regenerated on every run; every byte is the one
    its prime group defines: `PreSieve.allTables_spec`, by one evaluation in the kernel) ANDed the way
    PreSieve::preSieve combines them: for every segment start L ≡ 0 (mod 30), byte offset o and bit
    b, the pre-sieved bit is 1 iff NO prime from 7 to 163 divides the number L + 30·o + offs[b] -/
theorem C01_presieve_exact (L o b : Nat) (hL : L % 30 = 0) (hb : b < 8) :
    (PreSieve.preSieveByte PreSieve.allTables L o).testBit b = true ↔
      ∀ p, Nat.Prime p → 7 ≤ p → p ≤ 163 → ¬ p ∣ (L + 30 * o + PreSieve.offs.getD b 0) :=
  PreSieve.preSieve_bit_iff L o b hL hb

/-- **C01 (sieve principle)** why pre-sieve + cross-off compute primality: a number n > 163 that has a bit in the sieve
    (coprime to 30) and lies below the segment's upper bound H is prime iff no prime 7..163 divides
    it (what `C01_presieve_exact` shows the pre-sieve computes) and no sieving prime p ∈ (163, √H]
    crosses it off on its walk over the quotients q ≥ p coprime to 30 (EratSmall/EratMedium) resp.
    210 (EratBig) — whichever algorithm each prime is routed to -/
theorem C01_sieve_principle (M : Nat → Nat) (hM : ∀ p, M p = 30 ∨ M p = 210) (n H : Nat) (hn : 163 < n) (hnH : n ≤ H)
    (hc : Nat.gcd n 30 = 1) :
    n.Prime ↔ (∀ p, p.Prime → 7 ≤ p → p ≤ 163 → ¬ p ∣ n) ∧
              (∀ p, p.Prime → 163 < p → p * p ≤ H → ¬ ClearedBy (M p) p n) :=
  sieve_principle M hM n H hn hnH hc

/-- **C01 (cross-off covers the segment)** once addSievingPrime has stored a sieving prime p for the segment starting at L,
    the walk from the stored state reaches EVERY multiple p·x with x ≥ p coprime to the modulus
    that lies above L + 6 — exactly the `ClearedBy` numbers of the sieve principle — and the state
    reached denotes p·x, so the bit cleared at that step is the bit of p·x -/
theorem C01_crossoff_covers_segment (stop p L : Nat) (hp : Nat.gcd (p % 30) 30 = 1) (hp0 : 0 < p) (hL : L % 30 = 0)
    (hnw : L + 6 < U64) (hnw2 : p * (max p ((L + 6) / p + 1) + 210) < U64) (hstop : stop < U64) (s : SP) (x : Nat)
    (hpx : p ≤ x) (hn : L + 6 < p * x) :
    (addSievingPrime 30 8 Gen.wheel30Init stop p L = some s → Nat.gcd x 30 = 1 →
      ∃ q1 j, Denotes 30 L s q1 ∧ (walk 30 j s q1).2 = x ∧ Denotes 30 L (walk 30 j s q1).1 x) ∧
    (addSievingPrime 210 48 Gen.wheel210Init stop p L = some s → Nat.gcd x 210 = 1 →
      ∃ q1 j, Denotes 210 L s q1 ∧ (walk 210 j s q1).2 = x ∧ Denotes 210 L (walk 210 j s q1).1 x) := by
  have h32 := lt_2_32_of_sq_lt (Nat.mul_le_mul_left p (by omega)) hnw2
  have hx := quotient_ge_first p L x hp0 hpx hn
  rw [addSievingPrime_eq_exact good30 stop p L hp0 h32 hnw hstop, addSievingPrime_eq_exact good210 stop p L hp0 h32 hnw hstop]
  exact ⟨fun h hg => have ⟨q1, j, hd, _, hj, hdj⟩ := stored_reaches good30 hp hp0 hL h hx hg; ⟨q1, j, hd, hj, hdj⟩,
    fun h hg => have ⟨q1, j, hd, _, hj, hdj⟩ := stored_reaches good210 hp hp0 hL h hx hg; ⟨q1, j, hd, hj, hdj⟩⟩

/-- **C01 (segment correctness, number level)** the composition of the layers above, for EVERY segment start L ≡ 0 (mod 30), byte offset o,
    bit b, stop < 2^64 and EVERY routing of the sieving primes to the 30-wheel (EratSmall/EratMedium)
    or the 210-wheel (EratBig): the number n = L + 30·o + offs[b] (163 < n ≤ stop) is prime iff its bit
    after PreSieve::preSieve's AND of the 16 regenerated tables is 1 and no sieving prime p (163 < p,
    p² ≤ stop) crosses it off, where "crosses off" means: Wheel::addSievingPrime (real wrapping
    arithmetic, regenerated INIT tables) stores p and a walk over the regenerated cross-off rows
    reaches n.  What is left between this theorem and "the sieved byte array equals the primes" is
    scheduling only: that the three cross-off loops perform exactly these walks inside every segment
    and that every prime ≤ √segmentHigh has been handed to addSievingPrime before (tied by the
    segment / cross streams). -/
theorem C01_segment_numbers_correct (big : Nat → Bool) (stop L o b : Nat) (hL : L % 30 = 0) (hb : b < 8)
    (h163 : 163 < L + 30 * o + PreSieve.offs.getD b 0) (hns : L + 30 * o + PreSieve.offs.getD b 0 ≤ stop)
    (hstop : stop < U64) (hL6 : L + 6 < U64) :
    (L + 30 * o + PreSieve.offs.getD b 0).Prime ↔
      ((PreSieve.preSieveByte PreSieve.allTables L o).testBit b = true ∧
       ∀ p, p.Prime → 163 < p → p * p ≤ stop →
         ¬ (if big p then CrossedOff210 stop p L (L + 30 * o + PreSieve.offs.getD b 0)
            else CrossedOff30 stop p L (L + 30 * o + PreSieve.offs.getD b 0))) :=
  segment_number_correct big stop L o b hL hb h163 hns hstop hL6

/-- **C01 (segments tile the interval)** for every sieve interval 7 ≤ start ≤ stop < 2^64, every L1 size, sieve size setting and value
    of the floating-point factors (EratCfg): the segments (low, bytes) that Erat::init + repeated
    Erat::sieveSegment / sieveLastSegment produce are adjacent (each starts at low + 30·bytes of the
    previous one), the first one contains start in its first two bytes, and EVERY number of
    [start, stop] that has a bit in the sieve (residue mod 30 not in 2..6) lies in one of them — no gap
    at a segment edge, nothing beyond stop is needed.  64-bit saturation of checkedAdd is part of
    the model. -/
theorem C01_segments_tile (cfg : EratCfg) (start stop kib : Nat) (h7 : 7 ≤ start) (hss : start ≤ stop)
    (hst : stop ≤ umax) (hsu : start < umax) :
    let g := EratGeom.init cfg start stop kib
    (∀ n, start ≤ n → n ≤ stop → ¬ (2 ≤ n % 30 ∧ n % 30 ≤ 6) →
      ∃ seg ∈ g.segments (stop + 1), seg.1 + 7 ≤ n ∧ n ≤ seg.1 + 30 * seg.2 + 1) ∧
    Adjacent (g.segments (stop + 1)) ∧
    (g.segments (stop + 1)).head? = some (g.segmentLow, g.sieveSegment.2.1) ∧
    g.segmentLow + 7 ≤ start ∧ start ≤ g.segmentLow + 36 := by
  simp only
  obtain ⟨hinv, hlo, hhi, hstop⟩ := init_GInv cfg start stop kib h7 hss hst hsu
  have ht := segments_tile (stop + 1) _ hinv (by rw [hstop]; omega)
  refine ⟨?_, ht.2.2, ht.2.1, hlo, hhi⟩
  intro n h1 h2 h3
  exact ht.1 n (by omega) (by rw [hstop]; exact h2) h3

/-- **C01 (source lock, segment grid)** regenerated: the model EratGeom mirrors exactly this text of
    Erat::sieveSegment, sieveLastSegment, byteRemainder, hasNextSegment and the segment set-up of initAlgorithms -/
theorem C01_segment_source : Gen.eratSegmentText = [
    ("sieveSegment", "if (segmentHigh_ < stop_) { preSieve(); crossOff(); uint64_t dist = sieve_.size() * 30; segmentLow_ = checkedAdd(segmentLow_, dist); segmentHigh_ = checkedAdd(segmentHigh_, dist); segmentHigh_ = std::min(segmentHigh_, stop_); } else sieveLastSegment();"),
    ("sieveLastSegment", "uint64_t rem = byteRemainder(stop_); uint64_t dist = (stop_ - rem) - segmentLow_; sieve_.resize(dist / 30 + 1); preSieve(); crossOff(); sieve_.back() &= unsetLarger[rem]; auto* sieve = sieve_.data(); auto i = sieve_.size(); ASSERT(sieve_.capacity() % sizeof(uint64_t) == 0); for (; i % sizeof(uint64_t); i++) sieve[i] = 0; segmentLow_ = stop_;"),
    ("byteRemainder", "ASSERT(n >= 7); return (n - 7) % 30 + 7;"),
    ("initAlgorithms.segments", "uint64_t rem = byteRemainder(start_); uint64_t dist = sieveSize * 30 + 6; segmentLow_ = start_ - rem; segmentHigh_ = checkedAdd(segmentLow_, dist); segmentHigh_ = std::min(segmentHigh_, stop_);"),
    ("hasNextSegment", "return segmentLow_ < stop_;")] := rfl

/-- **C01 (source lock)** the model of Wheel::addSievingPrime mirrors exactly this text (regenerated,
    whitespace-normalised, on every run) -/
theorem C01_wheel_source : Gen.addSievingPrimeText =
    "ASSERT(segmentLow % 30 == 0); segmentLow += 6; uint64_t quotient = (segmentLow / prime) + 1; quotient = std::max(prime, quotient); uint64_t multiple = prime * quotient; if (multiple > stop_ || multiple < segmentLow) return; uint64_t nextMultipleFactor = INIT[quotient % MODULO].nextMultipleFactor; uint64_t nextMultiple = prime * nextMultipleFactor; if (nextMultiple > stop_ - multiple) return; multiple += nextMultiple; #if defined(ENABLE_ASSERT) if (MODULO >= 2) ASSERT(multiple % 2 != 0); if (MODULO >= 6) ASSERT(multiple % 3 != 0); if (MODULO >= 30) ASSERT(multiple % 5 != 0); if (MODULO >= 210) ASSERT(multiple % 7 != 0); if (MODULO >= 2310) ASSERT(multiple % 11 != 0); #endif uint64_t multipleIndex = (multiple - segmentLow) / 30; uint64_t wheelIndex = wheelOffsets_[prime % 30] + INIT[quotient % MODULO].wheelIndex; storeSievingPrime(prime, multipleIndex, wheelIndex);" :=
  rfl

/-- non-vacuity: the prime 7 at segment 0 starts at 7·7 = 49 = 0 + 30·1 + 19 (bit 4), wheel index 1 -/
example : addSievingPrime 30 8 Gen.wheel30Init 1000 7 0 = some ⟨0, 1, 1⟩ ∧
    (step30 Gen.eratMediumRows ⟨0, 1, 1⟩) = (4, ⟨0, 2, 2⟩) := by decide +kernel

/-- **C01 (model sources)** regenerated on every run: digests of the (comment-, hook- and whitespace-normalised) bodies of the
    functions that the hand-written model behind the theorems of this file mirrors.  An edit to one of
    them — harmless or not — breaks this obligation; the check then searches for a failing input
    with the correspondence streams (DESIGN.md section 2, step 5). -/
theorem C01_model_sources :
    Gen.modelSources.filter (fun e => e.1 ∈ ["iterator.generate_next_primes", "iterator.hpp.next_prime", "IteratorHelper.updateNext", "IteratorHelper.getNextDist", "PrimeGenerator.initErat", "PrimeGenerator.sieveNextPrimes", "PrimeGenerator.sieveSegment", "PrimeGenerator_default.fillNextPrimes", "PrimeGenerator_avx512.fillNextPrimes", "Erat.init", "Erat.initAlgorithms", "Erat.preSieve", "PreSieve.preSieve"]) =
     [("iterator.generate_next_primes", "2a13a14724829f92f5fe"),
      ("iterator.hpp.next_prime", "3ef2a1a42a787f93e2be"),
      ("IteratorHelper.updateNext", "4131a8a58e0e755d4fb9"),
      ("IteratorHelper.getNextDist", "fe0225e589ca1011db71"),
      ("PrimeGenerator.initErat", "e9abf2b828768ab0d322"),
      ("PrimeGenerator.sieveNextPrimes", "ebee29abba9b6db6af30"),
      ("PrimeGenerator.sieveSegment", "3639ea2a437c015b1ea1"),
      ("PrimeGenerator_default.fillNextPrimes", "0a69dc0049d71ebe96df"),
      ("PrimeGenerator_avx512.fillNextPrimes", "7df9e1d9dff83718d8d2"),
      ("Erat.init", "6050ef3bf0435ee43aae"),
      ("Erat.initAlgorithms", "f1a7ebe09c59958b8c39"),
      ("Erat.preSieve", "7341fc248d9a958b47cf"),
      ("PreSieve.preSieve", "4e4f4f3e84a651d27b42")] :=
  Gen.modelSources_filter (by simp only [Gen.modelSources, sublist_step]) rfl

/-- **C01 (sieving primes reach every segment in time — one segment)** for every source sequence that is positive,
    non-decreasing and strictly increasing below the sentinel ~0ull, every feed state reachable so far and every segment
    [low, high] with high < 2^64: after the loop of PrimeGenerator::sieveSegment() / CountPrintPrimes::sieve()
    (`while (prime_ <= isqrt(segmentHigh_)) { addSievingPrime(prime_); prime_ = next(); }`) EVERY source value
    ≤ isqrt(high) has been passed to addSievingPrime, the pending prime_ is beyond isqrt(high), and what this call added
    has its square ≤ high.  A `<` in place of `<=`, a skipped iteration or a lost look-ahead value falsifies it. -/
theorem C01_feed_complete (src : Nat → Nat) (h : Feed.SrcOk src) (low high : Nat) (hh : high ≤ umax) (s : Feed.St)
    (hs : s = {} ∨ Feed.FInv src s) :
    Feed.FInv src (Feed.feedSegment src low high s) ∧ Nat.sqrt high < (Feed.feedSegment src low high s).prime ∧
    (∀ i, src i ≤ Nat.sqrt high → src i ∈ (Feed.feedSegment src low high s).added.map Prod.fst) ∧
    ∃ extra, (Feed.feedSegment src low high s).added = extra ++ s.added ∧
      ∀ x ∈ extra, x.2 = low ∧ x.1 * x.1 ≤ high ∧ ∃ i, x.1 = src i :=
  Feed.feedSegment_spec src h low high hh s hs

/-- **C01 (the segment loop sieves correctly)**: composition of the segment grid (C01_segments_tile), the feed loop
    (C01_feed_complete), the first-multiple / walk theorems and the pre-sieve theorem.  Run `while (hasNextSegment())
    sieveSegment()` from Erat::init(start, stop) — any 7 ≤ start ≤ stop < 2^64, sieve size, cache configuration, routing of
    sieving primes to the three cross-off algorithms.  For EVERY segment reached and every number n of it with
    163 < n ≤ stop: n is prime iff its pre-sieved bit is set and none of the sieving primes that have been ADDED BY THE
    LOOP when the segment is sieved (each at the segment start where the loop added it) crosses it off.
    Assumed of SievingPrimes::next(): it delivers the primes of (163, isqrt(stop)] in increasing order, then ~0ull
    (validated by the `sp` operations of the segment stream, which drain the real SievingPrimes object; the inner sieve is the same Erat code one level down). -/
theorem C01_loop_segments_correct (big : Nat → Bool) (src : Nat → Nat) (hsrc : Feed.SrcOk src)
    (cfg : EratCfg) (start stop kib : Nat) (h7 : 7 ≤ start) (hss : start ≤ stop) (hst : stop ≤ umax) (hsu : start < umax)
    (hprimes : ∀ i, src i < umax → (src i).Prime ∧ 163 < src i)
    (hall : ∀ p, p.Prime → 163 < p → p * p ≤ stop → ∃ i, src i = p) :
    ∀ r ∈ Feed.run src (stop + 1) (EratGeom.init cfg start stop kib) {},
      ∀ o b, b < 8 → 163 < r.1 + 30 * o + PreSieve.offs.getD b 0 →
        r.1 + 30 * o + PreSieve.offs.getD b 0 ≤ r.1 + 30 * r.2.1 + 1 → r.1 + 30 * o + PreSieve.offs.getD b 0 ≤ stop →
        ((r.1 + 30 * o + PreSieve.offs.getD b 0).Prime ↔
          ((PreSieve.preSieveByte PreSieve.allTables r.1 o).testBit b = true ∧
           ∀ x ∈ r.2.2.2, ¬ (if big x.1 then Wheel.CrossedOff210 stop x.1 x.2 (r.1 + 30 * o + PreSieve.offs.getD b 0)
                             else Wheel.CrossedOff30 stop x.1 x.2 (r.1 + 30 * o + PreSieve.offs.getD b 0)))) := by
  intro r hr o b hb h163 hseg hns
  obtain ⟨hinv, _, _, hstop⟩ := init_GInv cfg start stop kib h7 hss hst hsu
  obtain ⟨hfed, hhigh⟩ :=
    Feed.run_spec src hsrc stop (stop + 1) _ {} hinv hstop (Or.inl rfl) (fun x hx => nomatch hx) r hr
  exact hfed.number_correct big o b _ rfl hprimes hall hb h163 (by omega) (by rw [U64_eq_succ]; omega)

/-- **C01 (inner feed)** SievingPrimes::sieveSegment(): `for (i = tinyIdx_; i*i <= high; i += 2) if (tinySieve_[i])
    addSievingPrime(i)` adds exactly the j ≥ tinyIdx_ of tinyIdx_'s parity with j ≤ isqrt(high) and tinySieve_[j] set, and
    leaves tinyIdx_ at the first number of that parity beyond isqrt(high) — for every high, tinyIdx_ and table. -/
theorem C01_tiny_feed (tiny : Nat → Bool) (high tinyIdx : Nat) :
    Nat.sqrt high < (Feed.tinyFeed tiny high tinyIdx).1 ∧ tinyIdx ≤ (Feed.tinyFeed tiny high tinyIdx).1 ∧
    (Feed.tinyFeed tiny high tinyIdx).1 % 2 = tinyIdx % 2 ∧
    ∀ j, j ∈ (Feed.tinyFeed tiny high tinyIdx).2 ↔
      (tinyIdx ≤ j ∧ j ≤ Nat.sqrt high ∧ j % 2 = tinyIdx % 2 ∧ tiny j = true) := by
  rw [Feed.tinyFeed_eq]
  refine ⟨by omega, by omega, by omega, fun j => ?_⟩
  rw [List.mem_filter, List.mem_range']
  constructor
  · rintro ⟨⟨m, hm, rfl⟩, ht⟩
    exact ⟨by omega, by omega, by omega, ht⟩
  · exact fun ⟨a, b, c, ht⟩ => ⟨⟨(j - tinyIdx) / 2, by omega, by omega⟩, ht⟩

/-- non-vacuity: a concrete source (167, 173, 179, then the sentinel) satisfies the hypotheses' shape, and two calls of
    the loop behave as stated: isqrt(30000) = 173, so 167 and 173 are added at low 0 and 179 stays pending; the next
    segment (high 32100, isqrt 179) adds 179 at its own low -/
example :
    let src : Nat → Nat := fun k => [167, 173, 179].getD k umax
    let s1 := Feed.feedSegment src 0 30000 {}
    let s2 := Feed.feedSegment src 30000 32100 s1
    s1.added = [(173, 0), (167, 0)] ∧ s1.prime = 179 ∧ s2.added = [(179, 30000), (173, 0), (167, 0)] ∧ s2.prime = umax := by
  decide +kernel

example : Feed.tinyFeed (fun j => j % 3 ≠ 0) 200 5 = (15, [5, 7, 11, 13]) := by decide +kernel

/-- **C01 (feed sources)** regenerated on every run: the loops the feed model mirrors -/
theorem C01_feed_source :
    Gen.modelSources.filter (fun e => e.1 ∈ ["PrimeGenerator.sieveSegment", "CountPrintPrimes.sieve", "SievingPrimes.init", "SievingPrimes.tinySieve", "SievingPrimes.sieveSegment", "SievingPrimes.next"]) =
     [("PrimeGenerator.sieveSegment", "3639ea2a437c015b1ea1"),
      ("CountPrintPrimes.sieve", "2d085e0366bff642d27e"),
      ("SievingPrimes.init", "c3b17f80866161ac42c5"),
      ("SievingPrimes.tinySieve", "113fa3fd72436a642e1b"),
      ("SievingPrimes.sieveSegment", "03e2ed93360f87098a63"),
      ("SievingPrimes.next", "44d200de44feb094f754")] :=
  Gen.modelSources_filter (by simp only [Gen.modelSources, sublist_step]) rfl

/-- **C01 (tinySieve is correct)** SievingPrimes::tinySieve(), the plain odd-only sieve of Eratosthenes over a Vector<bool>
    (`for (i = 3; i*i <= n; i += 2) if (t[i]) for (j = i*i; j <= n; j += 2*i) t[j] = false`): for EVERY n the table has
    n + 1 entries and for every odd k with 3 ≤ k ≤ n, entry k is true iff k is prime. -/
theorem C01_tiny_sieve (n : Nat) :
    (Feed.tinySieve n).length = n + 1 ∧
    ∀ k, 3 ≤ k → k ≤ n → k % 2 = 1 → ((Feed.tinySieve n).getD k false = true ↔ k.Prime) := by
  -- the outer loop keeps `OInv n i` and stops at the first odd i with i² > n, where sifted means prime
  have key := fuelLoop_rule₂ (F := Feed.tinyOuter n) (fun _ _ _ => rfl) (fun _ _ => rfl)
    (Feed.OInv n) (fun i _ => n + 1 - i) ?step (n + 1) 3 _ (Feed.OInv_init n) (Nat.sub_le _ _)
  case step =>
    intro i t h hc
    have := Nat.le_mul_self i
    exact ⟨Feed.OInv_step n i t h hc, by omega⟩
  obtain ⟨i, t, ⟨_, _, hlen, hinv⟩, hc, he⟩ := key
  rw [Feed.tinySieve, he]
  exact ⟨hlen, fun k hk3 hkn hk => (hinv k hk3 hkn hk).trans (Feed.sifted_iff_prime i k hk hk3 (by omega))⟩

/-- **C01 (the inner feed adds exactly the primes)**: SievingPrimes::sieveSegment's loop over the table of tinySieve() —
    from any odd tinyIdx_ ≥ 3 and for every segment bound `high` with isqrt(high) inside the table — hands
    addSievingPrime exactly the primes of [tinyIdx_, isqrt(high)], each once, and leaves tinyIdx_ odd and beyond isqrt(high):
    the innermost level of the sieving-prime recursion is correct outright (no hypothesis about a source). -/
theorem C01_inner_feed_primes (n high tinyIdx : Nat) (hodd : tinyIdx % 2 = 1) (h3 : 3 ≤ tinyIdx) (hn : Nat.sqrt high ≤ n) :
    let r := Feed.tinyFeed (fun j => (Feed.tinySieve n).getD j false) high tinyIdx
    Nat.sqrt high < r.1 ∧ r.1 % 2 = 1 ∧
    ∀ j, j ∈ r.2 ↔ (tinyIdx ≤ j ∧ j ≤ Nat.sqrt high ∧ j.Prime) := by
  simp only
  obtain ⟨h1, _, h3', h4⟩ := C01_tiny_feed (fun j => (Feed.tinySieve n).getD j false) high tinyIdx
  refine ⟨h1, by omega, ?_⟩
  intro j
  rw [h4 j]
  constructor
  · rintro ⟨a, b, c, d⟩
    exact ⟨a, b, ((C01_tiny_sieve n).2 j (by omega) (by omega) (by omega)).mp d⟩
  · rintro ⟨a, b, c⟩
    have hjodd := c.mod_two_eq_one_iff_ne_two.mpr (by omega)
    exact ⟨a, b, by omega, ((C01_tiny_sieve n).2 j (by omega) (by omega) hjodd).mpr c⟩

/-- non-vacuity / test: the table for n = 40 and one call of the inner feed over it -/
example : ((List.range 41).filter (fun k => k % 2 = 1 ∧ 3 ≤ k ∧ (Feed.tinySieve 40).getD k false)) = [3, 5, 7, 11, 13, 17, 19, 23, 29, 31, 37] := by
  decide +kernel
example : Feed.tinyFeed (fun j => (Feed.tinySieve 40).getD j false) 1000 5 = (33, [5, 7, 11, 13, 17, 19, 23, 29, 31]) := by
  decide +kernel

/-- **C01 (one sieving prime, one segment)**: the loop shape of EratSmall / EratMedium / EratBig::crossOff for a stored sieving
    prime — `while (multipleIndex < sieveSize) { clear bit; multipleIndex += …; wheelIndex = next }  multipleIndex -= sieveSize` —
    started from a state that denotes the multiple p·q relative to the segment start L (what addSievingPrime establishes:
    C01_first_multiple): it performs the first n steps of the exact walk (C01_crossoff_walk_exact) where n is the first step
    whose byte index is ≥ S; the (byte, bit) pairs it clears are exactly those of the walk positions 0..n-1, all at bytes < S;
    and the state it stores denotes the n-th walk position relative to the NEXT segment start L + 30·S.
    For both wheels, every S, L and sieving prime ≥ 30. -/
theorem C01_crossoff_one_segment (big : Bool) (L S : Nat) (s : Wheel.SP) (q : Nat)
    (h : Wheel.Denotes (if big then 210 else 30) L s q) (hsp : 0 < s.sp) :
    let M := if big then 210 else 30
    ∃ n, (Wheel.crossSeg M S (S + 1) s []).1 = { (Wheel.walk M n s q).1 with idx := (Wheel.walk M n s q).1.idx - S } ∧
      S ≤ (Wheel.walk M n s q).1.idx ∧
      Wheel.Denotes M (L + 30 * S) (Wheel.crossSeg M S (S + 1) s []).1 (Wheel.walk M n s q).2 ∧
      (Wheel.crossSeg M S (S + 1) s []).2 =
        (List.range n).map (fun j => ((Wheel.walk M j s q).1.idx, Wheel.bitOf M (Wheel.walk M j s q).1)) ∧
      ∀ j, j < n → (Wheel.walk M j s q).1.idx < S :=
  Wheel.crossSeg_spec (Wheel.good_if big) L S (S + 1) s q h hsp (by omega)

/-- **C01 (one sieving prime across all segments)**: for ANY list of segment sizes, the state stored after the
    last of them denotes a multiple of the same sieving prime relative to the start of the following segment, with a
    quotient not below the first one: the position of a sieving prime never falls behind the segment grid and never
    restarts, however the interval is cut into segments. -/
theorem C01_crossoff_across_segments (big : Bool) (Ss : List Nat) (L : Nat) (s : Wheel.SP) (q : Nat)
    (h : Wheel.Denotes (if big then 210 else 30) L s q) (hsp : 0 < s.sp) :
    let M := if big then 210 else 30
    ∃ q', q ≤ q' ∧ Wheel.Denotes M (L + 30 * Ss.sum) (Wheel.crossSegs M Ss s).2 q' ∧ 0 < (Wheel.crossSegs M Ss s).2.sp :=
  Wheel.crossSegs_inv (Wheel.good_if big) Ss L s q h hsp

/-- non-vacuity: sieving prime 167 added at L = 0 (stop = 10^6; first multiple 167² at byte 929) and carried over three
    segments of 1000, 500 and 2000 bytes: 4 + 24 + 95 positions are cleared, each inside its segment, and processing
    segment-wise clears as many positions and ends in the same stored state as one segment of 3500 bytes -/
example :
    let s0 := (Wheel.addSievingPrime 30 8 Gen.wheel30Init 1000000 167 0).getD default
    let r := Wheel.crossSegs 30 [1000, 500, 2000] s0
    let one := Wheel.crossSeg 30 3500 3501 s0 []
    0 < s0.sp ∧ r.1.map List.length = [4, 24, 95] ∧ (r.1.map (fun c => c.all (fun e => e.1 < 2000))) = [true, true, true] ∧
    one.2.length = 123 ∧ r.2 = one.1 := by
  decide +kernel

/-- **C01 (a segment clears every multiple that lies in it, at byte level)**: from a stored state that denotes p·q relative to
    the segment start L (p ≥ 30), the cross-off loop over a segment of S bytes clears — at its own byte < S and its own bit —
    EVERY multiple p·x with x ≥ q coprime to the wheel that lies in the segment (p·x ≤ L + 30·S + 6).  With
    C01_crossoff_one_segment (nothing but walk positions is cleared, the stored state denotes the next one relative to
    L + 30·S) and C01_crossoff_across_segments this is the per-prime half of "bit = prime" for the real loop shape. -/
theorem C01_segment_clears_multiples (big : Bool) (L S : Nat) (s : Wheel.SP) (q : Nat)
    (h : Wheel.Denotes (if big then 210 else 30) L s q) (hsp : 0 < s.sp)
    (x : Nat) (hx : q ≤ x) (hg : Nat.gcd x (if big then 210 else 30) = 1)
    (hin : Wheel.primeOf (if big then 210 else 30) s * x ≤ L + 30 * S + 6) :
    ∃ e ∈ (Wheel.crossSeg (if big then 210 else 30) S (S + 1) s []).2, e.1 < S ∧ e.2 < 8 ∧
      Wheel.primeOf (if big then 210 else 30) s * x = L + 30 * e.1 + Wheel.offs.getD e.2 0 :=
  Wheel.crossSeg_clears (Wheel.good_if big) L S s q h hsp x hx hg hin

end Ps.Props
