/-
  C09 — Parallel sieving tiles the interval exactly, splits no k-tuplet, and its total does
  not depend on the schedule.
-/
import PsProofs.Parallel
import PsProofs.Tuplets
import PsProofs.Locks
import Mathlib.Algebra.BigOperators.Group.Finset.Basic
import Mathlib.Algebra.BigOperators.Fin

namespace Ps.Props
open Ps Ps.Spec

/-- **C09** the 64-bit (wrapping / saturating) computation of piece i in ParallelSieve::sieve equals the
    exact-arithmetic piece, provided `align(start) + 1` does not wrap — which can only happen for
    stop = 2^64-1 when a piece starts within 32 of stop (excluded by `hnw`, see DESIGN.md C09). -/
theorem C09_piece_exact {start stop td i : Nat} (hlt : start < stop) (hs : stop ≤ umax)
    (htd : 0 < td) (htdu : td ≤ umax) (hi : i < numPieces start stop td)
    (hnw : stop < umax ∨ start + td * i + 32 < stop ∨ i = 0) :
    piece start stop td i = pieceN start stop td i :=
  piece_eq_pieceN (Nat.le_of_lt hlt) hs htd hi hnw

/-- **C09 (tiling)** for every start < stop and every piece length td that is a positive multiple of 30:
    the first piece starts at start, the last ends at stop, consecutive pieces are adjacent
    (no gap, no overlap), no piece runs backwards, and every interior boundary b satisfies
    b % 30 = 2 and b ≥ 32. -/
theorem C09_tiling {start stop td : Nat} (hlt : start < stop) (htd30 : td % 30 = 0) (htd : 30 ≤ td) :
    (pieceN start stop td 0).1 = start ∧
    (pieceN start stop td (numPieces start stop td - 1)).2 = stop ∧
    (∀ i, (pieceN start stop td (i + 1)).1 = (pieceN start stop td i).2 + 1) ∧
    (∀ i, (pieceN start stop td i).1 ≤ (pieceN start stop td i).2 + 1) ∧
    (∀ i, (pieceN start stop td i).2 < stop →
      (pieceN start stop td i).2 % 30 = 2 ∧ 32 ≤ (pieceN start stop td i).2) :=
  ⟨pieceN_first _ _ _, pieceN_last _ _ (Nat.lt_of_lt_of_le (by decide) htd), pieceN_chain _ _ _,
   fun i => pieceN_ordered _ _ _ i (Nat.le_of_lt hlt),
   fun i h => pieceN_boundary _ _ _ i htd h⟩

/-- the piece length computed by getThreadDistance always has the shape `C09_tiling` needs -/
theorem C09_threadDistance_shape (start stop threads minDist : Nat) :
    getThreadDistance start stop threads minDist % 30 = 0 ∧
    30 ≤ getThreadDistance start stop threads minDist :=
  getThreadDistance_shape start stop threads minDist

theorem sum_range_eq_list (g : Nat → Nat) (n : Nat) :
    ∑ i ∈ Finset.range n, g i = ((List.range n).map g).sum := by
  induction n with
  | zero => rfl
  | succ n ih => rw [Finset.sum_range_succ, ih, List.range_succ, List.map_append, List.sum_append]; rfl

/-- **C09** the per-piece prime counts add up to the prime count of [start, stop] -/
theorem C09_primes_additive {start stop td : Nat} (hlt : start < stop) (htd30 : td % 30 = 0)
    (htd : 30 ≤ td) :
    (∑ i ∈ Finset.range (numPieces start stop td),
        primeCount (pieceN start stop td i).1 (pieceN start stop td i).2) = primeCount start stop := by
  rw [sum_range_eq_list]
  exact sum_pieceN primeCount (Nat.le_of_lt hlt) htd (fun _ _ _ _ h1 h2 => countIn_split _ h1 h2)
    (fun b => countIn_empty _ (Nat.lt_succ_self b))

/-- **C09** the per-piece counts of every constellation add up to the count over [start, stop]:
    no constellation is lost or counted twice at a piece boundary -/
theorem C09_tuplets_additive {ds : List Nat} (hds : ds ∈ allPatterns) {start stop td : Nat}
    (hlt : start < stop) (htd30 : td % 30 = 0) (htd : 30 ≤ td) :
    (∑ i ∈ Finset.range (numPieces start stop td),
        tupletCount ds (pieceN start stop td i).1 (pieceN start stop td i).2) =
      tupletCount ds start stop := by
  rw [sum_range_eq_list]
  exact sum_pieceN (tupletCount ds) (Nat.le_of_lt hlt) htd
    (fun _ _ hb hb32 h1 h2 => tupletCount_split h1 h2 (fun _ => no_split hds hb hb32))
    (fun b => countIn_empty _ (Nat.lt_succ_self b))

/-- **C09 (no split)** no constellation has members on both sides of a boundary b ≡ 2 (mod 30), b ≥ 32 -/
theorem C09_no_split {ds : List Nat} (hds : ds ∈ allPatterns) {p b : Nat} (hb : b % 30 = 2)
    (hb32 : 32 ≤ b) (ht : tupletAt ds p) (hpb : p ≤ b) : p + span ds ≤ b :=
  no_split hds hb hb32 ht hpb

/-- **C09 (schedules)** for every assignment `owner` of piece indices to T workers (every possible
    outcome of the races on the shared counter) the sum of the workers' local totals equals the
    sum over all pieces. -/
theorem C09_schedule_independent (N T : Nat) (g : Nat → Nat) (owner : Nat → Fin T) :
    (∑ w : Fin T, ∑ i ∈ (Finset.range N).filter (fun i => owner i = w), g i) =
      ∑ i ∈ Finset.range N, g i :=
  Finset.sum_fiberwise _ _ _

/-- non-vacuity: [0, 100] in pieces of length 30 -/
example : (List.range (numPieces 0 100 30)).map (pieceN 0 100 30) = [(0, 62), (63, 92), (93, 100), (101, 100)] := by
  decide

/-- **C09 (model sources)** regenerated on every run: digests of the (comment-, hook- and whitespace-normalised) bodies of the
    functions that the hand-written model behind the theorems of this file mirrors.  An edit to one of
    them — harmless or not — breaks this obligation; the check then searches for a failing input
    with the correspondence streams (DESIGN.md section 2, step 5). -/
theorem C09_model_sources :
    Gen.modelSources.filter (fun e => e.1 ∈ ["ParallelSieve.align", "ParallelSieve.getThreadDistance", "ParallelSieve.idealNumThreads", "ParallelSieve.sieve"]) =
     [("ParallelSieve.align", "60dc0866ae1c2879bdbc"),
      ("ParallelSieve.getThreadDistance", "2c9fda697b82c39b7630"),
      ("ParallelSieve.idealNumThreads", "87d1bd984b0d89acf057"),
      ("ParallelSieve.sieve", "ec8cd71bc175a45e7127")] :=
  Gen.modelSources_filter (by simp only [Gen.modelSources, sublist_step]) rfl

end Ps.Props
