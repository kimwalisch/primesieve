/-
  C03 — An iterator is a consistent cursor under any operation history.
-/
import PsProofs.IterRun
import PsProofs.Locks

namespace Ps.Props
open Ps Ps.Spec

/-- **C03** For every history of next/prev/jump_to/skipto/clear/move operations — with
    arbitrary stop hints, arbitrary block-length choices of the prime generator and
    arbitrary values of the floating-point sub-expressions (`env.o`) — the values the
    iterator model returns are exactly those of the abstract cursor; a call that fails
    (next prime ≥ 2^64) leaves the cursor where it was. -/
theorem C03_refines (env : Env) (henv : EnvOK env) (s h : Nat) (hs : s ≤ umax)
    (ops : List Op) (hwf : ∀ op ∈ ops, Op.WF op) :
    Iter.run env (Iter.mk' s h) ops = specRun (.fresh s) ops :=
  run_sim henv ops _ _ (R_mk' s h hs) hwf

/-- erase stop hints and block-length policy values from an operation -/
def eraseHints : Op → Op
  | .next _ => .next 0
  | .jumpTo s _ => .jumpTo s 0
  | .skipTo s _ => .skipTo s 0
  | op => op

theorem specStep_eraseHints (c : Cursor) (op : Op) : specStep c (eraseHints op) = specStep c op := by
  cases op <;> rfl

theorem specRun_eraseHints (c : Cursor) (ops : List Op) :
    specRun c (ops.map eraseHints) = specRun c ops := by
  induction ops generalizing c with
  | nil => rfl
  | cons op ops ih => simp only [List.map_cons, specRun, specStep_eraseHints, ih]

/-- **C03 (hint independence)** two histories that differ only in stop hints (and in the
    generator's block lengths, and run under different float oracles) return the same values. -/
theorem C03_hint_independent (env₁ env₂ : Env) (h₁ : EnvOK env₁) (h₂ : EnvOK env₂)
    (s hint₁ hint₂ : Nat) (hs : s ≤ umax) (ops₁ ops₂ : List Op)
    (hw₁ : ∀ op ∈ ops₁, Op.WF op) (hw₂ : ∀ op ∈ ops₂, Op.WF op)
    (heq : ops₁.map eraseHints = ops₂.map eraseHints) :
    Iter.run env₁ (Iter.mk' s hint₁) ops₁ = Iter.run env₂ (Iter.mk' s hint₂) ops₂ := by
  rw [C03_refines env₁ h₁ s hint₁ hs ops₁ hw₁, C03_refines env₂ h₂ s hint₂ hs ops₂ hw₂,
    ← specRun_eraseHints _ ops₁, ← specRun_eraseHints _ ops₂, heq]

/-- an operation after which the cursor is `.fresh s'`, whatever it was, makes the history before it
    irrelevant -/
theorem run_after_reposition (env : Env) (henv : EnvOK env) (s h s' h' : Nat) (hs : s ≤ umax)
    (hs' : s' ≤ umax) (pre post : List Op) (op : Op) (hop : Op.WF op)
    (hstep : ∀ c, (specStep c op).2 = .fresh s')
    (hw₁ : ∀ op ∈ pre, Op.WF op) (hw₂ : ∀ op ∈ post, Op.WF op) :
    (Iter.run env (Iter.mk' s h) (pre ++ (op :: post))).drop (pre.length + 1) =
      Iter.run env (Iter.mk' s' h') post := by
  have hw : ∀ o ∈ pre ++ (op :: post), Op.WF o :=
    List.forall_mem_append.2 ⟨hw₁, List.forall_mem_cons.2 ⟨hop, hw₂⟩⟩
  rw [C03_refines env henv s h hs _ hw, C03_refines env henv s' h' hs' post hw₂, specRun_append,
    specRun, hstep, List.append_cons]
  exact List.drop_left' (by rw [List.length_append, specRun_length]; rfl)

/-- **C03 (reset ≡ fresh)** after jump_to (hence clear) the iterator behaves like a freshly
    constructed one, whatever happened before. -/
theorem C03_reset_like_fresh (env : Env) (henv : EnvOK env) (s h s' h' : Nat) (hs : s ≤ umax)
    (hs' : s' ≤ umax) (pre post : List Op)
    (hw₁ : ∀ op ∈ pre, Op.WF op) (hw₂ : ∀ op ∈ post, Op.WF op) :
    (Iter.run env (Iter.mk' s h) (pre ++ (.jumpTo s' h' :: post))).drop (pre.length + 1) =
      Iter.run env (Iter.mk' s' h') post :=
  run_after_reposition env henv s h s' h' hs hs' pre post _ hs' (fun _ => rfl) hw₁ hw₂

/-- the same for a moved-from iterator: it behaves like `iterator(0)` -/
theorem C03_moved_from_like_fresh (env : Env) (henv : EnvOK env) (s h : Nat) (hs : s ≤ umax)
    (pre post : List Op) (hw₁ : ∀ op ∈ pre, Op.WF op) (hw₂ : ∀ op ∈ post, Op.WF op) :
    (Iter.run env (Iter.mk' s h) (pre ++ (.moveOut :: post))).drop (pre.length + 1) =
      Iter.run env (Iter.mk' 0 umax) post :=
  run_after_reposition env henv s h 0 umax hs (Nat.zero_le _) pre post _ trivial (fun _ => rfl)
    hw₁ hw₂

/-- non-vacuity: there is an environment satisfying `EnvOK` -/
example : ∃ env : Env, EnvOK env :=
  ⟨{ isPrime := fun n => decide n.Prime, o := ⟨id, id, id, id⟩ }, fun n => by simp⟩

/-- **C03 (model sources)** regenerated on every run: digests of the (comment-, hook- and whitespace-normalised) bodies of the
    functions that the hand-written model behind the theorems of this file mirrors.  An edit to one of
    them — harmless or not — breaks this obligation; the check then searches for a failing input
    with the correspondence streams (DESIGN.md section 2, step 5). -/
theorem C03_model_sources :
    Gen.modelSources.filter (fun e => e.1 ∈ ["iterator.generate_next_primes", "iterator.generate_prev_primes", "iterator.jump_to", "iterator.clear", "iterator.move_ctor", "iterator.move_assign", "iterator.hpp.next_prime", "iterator.hpp.prev_prime"]) =
     [("iterator.generate_next_primes", "2a13a14724829f92f5fe"),
      ("iterator.generate_prev_primes", "1784049c687ca3b8c7e8"),
      ("iterator.jump_to", "130c2420f114441dcb1e"),
      ("iterator.clear", "aa40e08e21600bb96ea4"),
      ("iterator.move_ctor", "ce27cefb4a651ddb25af"),
      ("iterator.move_assign", "d81f5830efdc68736a88"),
      ("iterator.hpp.next_prime", "3ef2a1a42a787f93e2be"),
      ("iterator.hpp.prev_prime", "57cdaf17aeb89aae2176")] :=
  Gen.modelSources_filter (by simp only [Gen.modelSources, sublist_step]) rfl

end Ps.Props
