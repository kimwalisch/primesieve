/-
  PsModel.Iterator — executable model of primesieve::iterator
  (include/primesieve/iterator.hpp, src/iterator.cpp, src/IteratorHelper.cpp)
  over an *ideal* prime generator (`IGen`): a generator for [lo, stop] that hands
  out the primes of that interval in ascending order, in blocks whose length is
  chosen by the caller-supplied policy value `k` (the real PrimeGenerator chooses
  the block length from its sieve geometry; no result may depend on it).

  Floating-point sub-expressions of IteratorHelper.cpp are parameters (`Oracle`).
  The primality test is a parameter (`Env.isPrime`): theorems assume it decides
  `Nat.Prime`, the compiled driver instantiates it with a deterministic Miller-Rabin.
-/
import PsModel.Basic
import PsModel.Generated.Consts

namespace Ps

/-- Values of the floating-point sub-expressions of IteratorHelper.cpp / pmath.hpp. -/
structure Oracle where
  /-- `(uint64_t) std::sqrt((double) start)` in getNextDist -/
  sqrtU : Nat → Nat
  /-- `maxPrimeGap<uint64_t>(n)` = `(uint64_t) (log(max(8,n))^2)` -/
  maxPrimeGap : Nat → Nat
  /-- `(uint64_t) std::log(std::max(10.0, (double) stop))` in getPrevDist -/
  logU : Nat → Nat
  /-- `(uint64_t) (std::sqrt(stop) * 2)` in getPrevDist -/
  sqrt2U : Nat → Nat

structure Env where
  isPrime : Nat → Bool
  o : Oracle

/-- IteratorHelper.cpp `getNextDist` -/
def getNextDist (o : Oracle) (start dist : Nat) : Nat :=
  let minDist := o.sqrtU start
  let maxDist := 1152921504606846976 -- 1ull << 60
  let dist := mul64 dist 4
  let minDist := max minDist Gen.maxCachedPrime
  inBetween minDist dist maxDist

/-- IteratorHelper.cpp `getPrevDist` -/
def getPrevDist (o : Oracle) (stop dist : Nat) : Nat :=
  let logx := o.logU stop
  let minDist := mul64 (Gen.MIN_CACHE_ITERATOR / 8) logx
  let maxDist := mul64 (Gen.MAX_CACHE_ITERATOR / 8) logx
  let tinyDist := mul64 Gen.maxCachedPrime 4
  let defaultDist := o.sqrt2U stop
  let dist := mul64 dist 4
  let minDist := inBetween tinyDist dist minDist
  inBetween minDist defaultDist maxDist

/-- The ideal generator for the interval [lo, stop] (primes below `lo` were handed out). -/
structure IGen where
  lo : Nat
  stop : Nat
  deriving Repr, DecidableEq

/-- Scan `fuel` consecutive numbers starting at `pos`, collecting at most `k` numbers
    accepted by `isP`; returns the collected numbers (ascending) and the position
    after the last number looked at. -/
def scan (isP : Nat → Bool) : (fuel pos k : Nat) → (acc : List Nat) → List Nat × Nat
  | 0, pos, _, acc => (acc.reverse, pos)
  | _ + 1, pos, 0, acc => (acc.reverse, pos)
  | fuel + 1, pos, k + 1, acc =>
    if isP pos then scan isP fuel (pos + 1) k (pos :: acc)
    else scan isP fuel (pos + 1) (k + 1) acc

/-- `PrimeGenerator::fillNextPrimes` seen from outside: the next block (at most
    `max k 1` primes) of the primes in [lo, stop]; an empty block when there is none
    left; `primesieve_error` when there is none left and stop = 2^64-1. -/
def IGen.fillNext (env : Env) (g : IGen) (k : Nat) : Except Err (List Nat × IGen) :=
  let r := scan env.isPrime (g.stop + 1 - g.lo) g.lo (max k 1) []
  if r.1.isEmpty && g.stop ≥ umax then .error .overflow
  else .ok (r.1, { g with lo := r.2 })

/-- `PrimeGenerator::fillPrevPrimes` seen from outside: all primes of [a, b], preceded
    by the sentinel 0 when a ≤ 2. -/
def fillPrev (env : Env) (a b : Nat) : List Nat :=
  (if a ≤ 2 then [0] else []) ++ (scan env.isPrime (b + 1 - a) a (b + 1 - a) []).1

/-- primesieve::iterator together with its IteratorData. `buf` is primes_[0 .. size_).
    `memory_ == nullptr` is represented by the IteratorData it would be created with
    (stop = start_, dist = 0, include_start_number = true, no generator). -/
structure Iter where
  i : Nat
  size : Nat
  start : Nat
  hint : Nat
  buf : List Nat
  stop : Nat
  dist : Nat
  incl : Bool
  gen : Option IGen
  deriving Repr, DecidableEq

/-- `iterator(start, stop_hint)` -/
def Iter.mk' (start hint : Nat) : Iter :=
  { i := 0, size := 0, start := start, hint := hint, buf := [],
    stop := start, dist := 0, incl := true, gen := none }

/-- `iterator::jump_to(start, stop_hint)` -/
def Iter.jumpTo (_st : Iter) (start hint : Nat) : Iter := Iter.mk' start hint

/-- `iterator::clear()` = `jump_to(0)` (stop_hint defaults to UINT64_MAX) -/
def Iter.clear (st : Iter) : Iter := st.jumpTo 0 umax

/-- C API `primesieve_skipto(it, start, stop_hint)` -/
def Iter.skipTo (_st : Iter) (start hint : Nat) : Iter :=
  { Iter.mk' start hint with incl := false }

/-- state of a moved-from iterator (move constructor / move assignment source) -/
def Iter.movedFrom : Iter := Iter.mk' 0 umax

/-- `IteratorHelper::updateNext`: returns (start, stop, dist) -/
def updateNext (o : Oracle) (st : Iter) : Nat × Nat × Nat :=
  let start := if st.incl then st.stop else checkedAdd st.stop 1
  let dist := getNextDist o start st.dist
  let stop :=
    if st.hint ≥ start ∧ st.hint < umax then checkedAdd st.hint (o.maxPrimeGap st.hint)
    else checkedAdd start dist
  (start, stop, dist)

/-- `IteratorHelper::updatePrev`: returns (start, stop, dist) -/
def updatePrev (o : Oracle) (st : Iter) : Nat × Nat × Nat :=
  let stop := if st.incl then st.start else checkedSub st.start 1
  let dist := getPrevDist o stop st.dist
  let start := checkedSub stop dist
  let start :=
    if st.hint ≥ start ∧ st.hint ≤ stop then checkedSub st.hint (o.maxPrimeGap st.hint)
    else start
  (start, stop, dist)

theorem updateNext_start (o : Oracle) (st : Iter) :
    (updateNext o st).1 = if st.incl then st.stop else checkedAdd st.stop 1 := rfl

theorem updateNext_stop (o : Oracle) (st : Iter) :
    ∃ x, (updateNext o st).1 ≤ x ∧ (updateNext o st).2.1 = min x umax := by
  unfold updateNext
  simp only
  generalize (if st.incl then st.stop else checkedAdd st.stop 1) = s
  split
  · exact ⟨_, by omega, checkedAdd_eq _ _⟩
  · exact ⟨_, Nat.le_add_right _ _, checkedAdd_eq _ _⟩

theorem updateNext_measure (o : Oracle) (st : Iter) (h : (updateNext o st).2.1 < umax) :
    2 * (umax - (updateNext o st).2.1) < 2 * (umax - st.stop) + (if st.incl then 1 else 0) := by
  obtain ⟨x, hx, he⟩ := updateNext_stop o st
  rw [updateNext_start, checkedAdd_eq] at hx
  rw [he] at h ⊢
  cases hi : st.incl <;> simp only [hi, if_true, if_false, Bool.false_eq_true] at hx ⊢ <;> omega

theorem updatePrev_stop (o : Oracle) (st : Iter) :
    (updatePrev o st).2.1 = if st.incl then st.start else st.start - 1 := by
  unfold updatePrev; simp only [checkedSub_eq]

theorem updatePrev_le (o : Oracle) (st : Iter) :
    (updatePrev o st).1 ≤ (updatePrev o st).2.1 := by
  unfold updatePrev
  simp only [checkedSub_eq]
  generalize (if st.incl then st.start else st.start - 1) = t
  split <;> omega

theorem updatePrev_measure (o : Oracle) (st : Iter) (h : 2 < (updatePrev o st).1) :
    2 * (updatePrev o st).1 < 2 * st.start + (if st.incl then 1 else 0) := by
  have hle := updatePrev_le o st
  rw [updatePrev_stop] at hle
  cases hi : st.incl <;> simp only [hi, if_true, if_false, Bool.false_eq_true] at hle ⊢ <;> omega

/-- Loop of `iterator::generate_next_primes` from a state without generator:
    new chunk via updateNext, fill; an empty chunk moves on to the next chunk.
    The termination proof is the "every call returns" part of C01. -/
def genNextFresh (env : Env) (k : Nat) (st : Iter) : Except Err Iter :=
  let u := updateNext env.o st
  let g : IGen := { lo := u.1, stop := u.2.1 }
  match hf : g.fillNext env k with
  | .error e => .error e
  | .ok (blk, g') =>
    if hb : blk.isEmpty then
      have : u.2.1 < umax := by
        unfold IGen.fillNext at hf
        simp only at hf
        split at hf
        · cases hf
        · rename_i hc
          simp only [Except.ok.injEq, Prod.mk.injEq] at hf
          rw [hf.1] at hc
          simp only [hb, Bool.true_and, decide_eq_true_eq] at hc
          exact Nat.lt_of_not_le hc
      have := updateNext_measure env.o st this
      genNextFresh env k
        { st with start := u.1, stop := u.2.1, dist := u.2.2, incl := false,
                  gen := none, buf := [], size := 0, i := 0 }
    else
      .ok { st with start := u.1, stop := u.2.1, dist := u.2.2, incl := false,
                    gen := some g', buf := blk, size := blk.length, i := 0 }
termination_by 2 * (umax - st.stop) + (if st.incl then 1 else 0)

/-- position to which a failed `generate_next_primes` rolls the iterator back:
    the last prime of the buffer (exclusive), or the unchanged fresh position -/
def Iter.snapNext (st : Iter) : Nat × Bool :=
  if st.size > 0 then (st.buf.getD (st.size - 1) 0, false) else (st.start, st.incl)

def Iter.snapPrev (st : Iter) : Nat × Bool :=
  if st.size > 0 then (st.buf.getD 0 0, false) else (st.start, st.incl)

/-- roll-back performed by the catch handler of generate_next/prev_primes -/
def Iter.resetTo (st : Iter) (p : Nat × Bool) : Iter :=
  { Iter.mk' p.1 st.hint with incl := p.2 }

/-- `iterator::generate_next_primes()` -/
def Iter.generateNext (env : Env) (k : Nat) (st : Iter) : Except Err Iter :=
  match st.gen with
  | none => genNextFresh env k st
  | some g =>
    match g.fillNext env k with
    | .error e => .error e
    | .ok (blk, g') =>
      if blk.isEmpty then
        genNextFresh env k { st with gen := none, buf := [], size := 0, i := 0 }
      else
        .ok { st with gen := some g', buf := blk, size := blk.length, i := 0 }

/-- Loop of `iterator::generate_prev_primes` (do/while over chunks). -/
def genPrevLoop (env : Env) (st : Iter) : Iter :=
  let u := updatePrev env.o st
  let blk := fillPrev env u.1 u.2.1
  if hb : blk.isEmpty then
    have : 2 < u.1 := by
      apply Nat.lt_of_not_le
      intro hle
      simp [blk, fillPrev, hle] at hb
    have := updatePrev_measure env.o st this
    genPrevLoop env { st with start := u.1, stop := u.2.1, dist := u.2.2, incl := false,
                              gen := none, buf := [], size := 0, i := 0 }
  else
    { st with start := u.1, stop := u.2.1, dist := u.2.2, incl := false,
              gen := none, buf := blk, size := blk.length, i := blk.length }
termination_by 2 * st.start + (if st.incl then 1 else 0)

/-- `iterator::generate_prev_primes()` -/
def Iter.generatePrev (env : Env) (st : Iter) : Iter :=
  match st.gen with
  | none => genPrevLoop env st
  | some _ =>
    -- special case: generate_next_primes() was used before
    genPrevLoop env { st with start := st.buf.getD 0 0, gen := none }

/-- `iterator::next_prime()`; `k` is the block-length policy value used if a refill happens -/
def Iter.next (env : Env) (st : Iter) (k : Nat) : Except Err Nat × Iter :=
  let i1 := st.i + 1
  if i1 ≥ st.size then
    match st.generateNext env k with
    | .ok st' => (.ok (st'.buf.getD st'.i 0), st')
    | .error e => (.error e, st.resetTo st.snapNext)
  else (.ok (st.buf.getD i1 0), { st with i := i1 })

/-- `iterator::prev_prime()` -/
def Iter.prev (env : Env) (st : Iter) : Nat × Iter :=
  let st1 := if st.i = 0 then st.generatePrev env else st
  let i1 := st1.i - 1
  (st1.buf.getD i1 0, { st1 with i := i1 })

/-- `next_prime()` during which an allocation fails: only a call that refills the buffer allocates;
    the exception (std::bad_alloc) reaches the caller and the rollback guard repositions the
    iterator where it was.  A call that stays inside the buffer allocates nothing. -/
def Iter.nextFault (env : Env) (st : Iter) (k : Nat) : Except Err Nat × Iter :=
  if st.i + 1 ≥ st.size then (.error .badAlloc, st.resetTo st.snapNext) else st.next env k

/-- `prev_prime()` during which an allocation fails -/
def Iter.prevFault (env : Env) (st : Iter) : Except Err Nat × Iter :=
  if st.i = 0 then (.error .badAlloc, st.resetTo st.snapPrev)
  else let r := st.prev env; (.ok r.1, r.2)

/-- Operations of a history on one iterator. -/
inductive Op where
  | next (k : Nat)
  | prev
  | jumpTo (s h : Nat)
  | skipTo (s h : Nat)
  | clear
  | moveIn     -- continue with the object the iterator was moved into
  | moveOut    -- continue with the moved-from object
  deriving Repr, DecidableEq

inductive Out where
  | val (n : Nat)
  | err (e : Err)
  | unit
  deriving Repr, DecidableEq

def Iter.step (env : Env) (st : Iter) : Op → Out × Iter
  | .next k => match st.next env k with
    | (.ok v, st') => (.val v, st')
    | (.error e, st') => (.err e, st')
  | .prev => let r := st.prev env; (.val r.1, r.2)
  | .jumpTo s h => (.unit, st.jumpTo s h)
  | .skipTo s h => (.unit, st.skipTo s h)
  | .clear => (.unit, st.clear)
  | .moveIn => (.unit, st)
  | .moveOut => (.unit, Iter.movedFrom)

def Iter.run (env : Env) : Iter → List Op → List Out
  | _, [] => []
  | st, op :: ops => let r := st.step env op; r.1 :: Iter.run env r.2 ops

end Ps
