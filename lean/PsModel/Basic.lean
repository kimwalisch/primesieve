/-
  PsModel.Basic — 64-bit integer helpers of primesieve (include/primesieve/pmath.hpp)
  as total functions on `Nat`.  Mathlib-free (imported by the compiled driver).

  Convention: a C++ `uint64_t` is a `Nat` together with the invariant `< 2^64`;
  `add64/sub64/mul64` are the wrapping C++ operators.
-/
namespace Ps

/-- 2^64 -/
def U64 : Nat := 18446744073709551616
/-- std::numeric_limits<uint64_t>::max() -/
def umax : Nat := 18446744073709551615

theorem U64_eq : U64 = 2 ^ 64 := by decide
theorem umax_eq : umax = U64 - 1 := by decide
theorem U64_eq_succ : U64 = umax + 1 := by decide

def add64 (x y : Nat) : Nat := (x + y) % U64
def sub64 (x y : Nat) : Nat := (x + U64 - y % U64) % U64
def mul64 (x y : Nat) : Nat := (x * y) % U64

/-- pmath.hpp `checkedAdd` -/
def checkedAdd (x y : Nat) : Nat :=
  if x ≥ umax - y then umax else x + y

/-- pmath.hpp `checkedSub` -/
def checkedSub (x y : Nat) : Nat :=
  if x > y then x - y else 0

/-- pmath.hpp `inBetween(min, x, max)` on unsigned operands -/
def inBetween (mn x mx : Nat) : Nat :=
  if x < mn then mn else if x > mx then mx else x

theorem checkedAdd_eq (x y : Nat) : checkedAdd x y = min (x + y) umax := by
  unfold checkedAdd; split <;> omega

theorem checkedAdd_le_umax (x y : Nat) : checkedAdd x y ≤ umax := by
  rw [checkedAdd_eq]; exact Nat.min_le_right _ _

theorem checkedSub_eq (x y : Nat) : checkedSub x y = x - y := by
  unfold checkedSub; split <;> omega

theorem inBetween_eq {mn mx : Nat} (h : mn ≤ mx) (x : Nat) :
    inBetween mn x mx = max mn (min x mx) := by
  unfold inBetween; split <;> (try split) <;> omega

/-- the inequality half of `inBetween_eq` needs no `mn ≤ mx` -/
theorem inBetween_le_clamp (mn x mx : Nat) : inBetween mn x mx ≤ max mn (min x mx) := by
  unfold inBetween; split <;> (try split) <;> omega

theorem inBetween_range {mn mx : Nat} (h : mn ≤ mx) (x : Nat) :
    mn ≤ inBetween mn x mx ∧ inBetween mn x mx ≤ mx := by
  rw [inBetween_eq h]; omega

theorem mul64_of_lt {x y : Nat} (h : x * y < U64) : mul64 x y = x * y := Nat.mod_eq_of_lt h
theorem add64_of_lt {x y : Nat} (h : x + y < U64) : add64 x y = x + y := Nat.mod_eq_of_lt h

/-- pmath.hpp `ceilDiv` -/
def ceilDiv (x y : Nat) : Nat := (x + y - 1) / y

inductive Err where
  | overflow      -- primesieve_error("cannot generate primes > 2^64") and friends
  | badAlloc      -- std::bad_alloc
  | invalid       -- other primesieve_error (bad argument)
  deriving DecidableEq, Repr, Inhabited

end Ps
