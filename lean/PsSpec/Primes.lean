/-
  PsSpec.Primes — the mathematical specification primesieve is verified against,
  written with Mathlib's `Nat.Prime`.
-/
import Mathlib.Data.Nat.Prime.Basic
import Mathlib.Data.Nat.Prime.Infinite
import Mathlib.Data.Nat.Find
import Mathlib.Data.List.Range

namespace Ps.Spec

/-- least prime ≥ n -/
noncomputable def nextPrime (n : Nat) : Nat :=
  @Nat.find _ (Classical.decPred _) (Nat.exists_infinite_primes n)

/-- greatest prime ≤ n, or 0 when there is none (n < 2) -/
noncomputable def prevPrime (n : Nat) : Nat := @Nat.findGreatest Nat.Prime (Classical.decPred _) n

-- NB: both are defined with classical decidability on purpose, so that neither the kernel nor
-- `decide` ever tries to *compute* them by brute-force primality testing of 64-bit numbers.

/-- the primes of the half-open interval [a, p), ascending -/
noncomputable def primesHO (a p : Nat) : List Nat :=
  (List.range' a (p - a)).filter (fun n => decide n.Prime)

/-- the primes of the closed interval [a, b], ascending -/
noncomputable def primesIn (a b : Nat) : List Nat := primesHO a (b + 1)

/-! `primesHO` (and `countIn`, `tupletList` in `PsSpec/Tuplets`) range over `List.range' a (c - a)`, the numbers of [a, c). -/

theorem range'_sub_empty {a c : Nat} (h : c ≤ a) : List.range' a (c - a) = [] := by
  rw [Nat.sub_eq_zero_of_le h]; rfl

theorem range'_sub_append {a b c : Nat} (h1 : a ≤ b) (h2 : b ≤ c) :
    List.range' a (b - a) ++ List.range' b (c - b) = List.range' a (c - a) := by
  obtain ⟨m, rfl⟩ := Nat.exists_eq_add_of_le h1
  obtain ⟨n, rfl⟩ := Nat.exists_eq_add_of_le h2
  rw [Nat.add_sub_cancel_left, Nat.add_sub_cancel_left, Nat.add_assoc, Nat.add_sub_cancel_left,
    List.range'_append_1]

theorem le_nextPrime (n : Nat) : n ≤ nextPrime n :=
  (@Nat.find_spec _ (Classical.decPred _) (Nat.exists_infinite_primes n)).1
theorem nextPrime_prime (n : Nat) : (nextPrime n).Prime :=
  (@Nat.find_spec _ (Classical.decPred _) (Nat.exists_infinite_primes n)).2
theorem nextPrime_min {n p : Nat} (h1 : n ≤ p) (h2 : p.Prime) : nextPrime n ≤ p :=
  @Nat.find_min' _ (Classical.decPred _) _ _ ⟨h1, h2⟩

theorem nextPrime_eq_of {n p : Nat} (h1 : n ≤ p) (h2 : p.Prime)
    (h3 : ∀ q, n ≤ q → q < p → ¬ q.Prime) : nextPrime n = p := by
  apply Nat.le_antisymm (nextPrime_min h1 h2)
  by_contra h
  exact h3 _ (le_nextPrime n) (Nat.lt_of_not_le h) (nextPrime_prime n)

theorem no_prime_lt_nextPrime {n q : Nat} (h1 : n ≤ q) (h2 : q < nextPrime n) : ¬ q.Prime := by
  intro hq; have := nextPrime_min h1 hq; omega

theorem nextPrime_eq_nextPrime {x y : Nat} (hxy : x ≤ y)
    (h : ∀ q, x ≤ q → q < y → ¬ q.Prime) : nextPrime x = nextPrime y :=
  nextPrime_eq_of (Nat.le_trans hxy (le_nextPrime y)) (nextPrime_prime y) fun q h1 h2 =>
    if hqy : q < y then h q h1 hqy else no_prime_lt_nextPrime (Nat.le_of_not_lt hqy) h2

theorem prevPrime_eq_iff {n p : Nat} :
    prevPrime n = p ↔ p ≤ n ∧ (p ≠ 0 → p.Prime) ∧ ∀ q, p < q → q ≤ n → ¬ q.Prime :=
  @Nat.findGreatest_eq_iff p n Nat.Prime (Classical.decPred _)

theorem prevPrime_le (n : Nat) : prevPrime n ≤ n := (prevPrime_eq_iff.1 rfl).1

theorem prevPrime_zero_or_prime (n : Nat) : prevPrime n = 0 ∨ (prevPrime n).Prime :=
  Decidable.or_iff_not_imp_left.2 (prevPrime_eq_iff.1 rfl).2.1

theorem prevPrime_greatest {n k : Nat} (hk : prevPrime n < k) (hkn : k ≤ n) : ¬ k.Prime :=
  (prevPrime_eq_iff.1 rfl).2.2 k hk hkn

theorem prevPrime_eq_zero {n : Nat} (h : ∀ q, q ≤ n → ¬ q.Prime) : prevPrime n = 0 :=
  prevPrime_eq_iff.2 ⟨Nat.zero_le n, fun h0 => absurd rfl h0, fun q _ => h q⟩

theorem prevPrime_eq_of {n p : Nat} (h1 : p ≤ n) (h2 : p.Prime)
    (h3 : ∀ q, p < q → q ≤ n → ¬ q.Prime) : prevPrime n = p :=
  prevPrime_eq_iff.2 ⟨h1, fun _ => h2, h3⟩

theorem prevPrime_eq_prevPrime {x y : Nat} (hxy : x ≤ y)
    (h : ∀ q, x < q → q ≤ y → ¬ q.Prime) : prevPrime y = prevPrime x :=
  prevPrime_eq_iff.2 ⟨Nat.le_trans (prevPrime_le x) hxy, (prevPrime_zero_or_prime x).resolve_left,
    fun q h1 h2 => if hqx : q ≤ x then prevPrime_greatest h1 hqx else h q (Nat.lt_of_not_le hqx) h2⟩

/-- seam: a search target moved across a gap without primes finds the same prime
    (downwards: `prevPrime_nextPrime_pred`) -/
theorem nextPrime_prevPrime_succ (n : Nat) : nextPrime (prevPrime n + 1) = nextPrime (n + 1) :=
  nextPrime_eq_nextPrime (Nat.succ_le_succ (prevPrime_le n)) fun _ h1 h2 =>
    prevPrime_greatest (Nat.lt_of_succ_le h1) (Nat.le_of_lt_succ h2)

theorem prevPrime_nextPrime_pred (n : Nat) : prevPrime (nextPrime n - 1) = prevPrime (n - 1) :=
  prevPrime_eq_prevPrime (Nat.sub_le_sub_right (le_nextPrime n) 1) fun _ h1 h2 =>
    no_prime_lt_nextPrime (n := n) (by omega) (by omega)

theorem not_prime_le_one {q : Nat} (h : q ≤ 1) : ¬ q.Prime := by
  intro hq; have := hq.two_le; omega

theorem prevPrime_of_prime {x : Nat} (hx : x.Prime) : prevPrime x = x :=
  prevPrime_eq_of (Nat.le_refl x) hx (by intro q h1 h2; omega)

theorem nextPrime_of_prime {x : Nat} (hx : x.Prime) : nextPrime x = x :=
  nextPrime_eq_of (Nat.le_refl x) hx fun _ h1 h2 => absurd h1 (Nat.not_le.2 h2)

theorem prevPrime_of_le_one {x : Nat} (hx : x ≤ 1) : prevPrime x = 0 :=
  prevPrime_eq_zero fun _ hq => not_prime_le_one (Nat.le_trans hq hx)

theorem nextPrime_of_le_two {x : Nat} (hx : x ≤ 2) : nextPrime x = 2 :=
  nextPrime_eq_of hx Nat.prime_two fun _ _ h2 => not_prime_le_one (Nat.le_of_lt_succ h2)

theorem mem_primesHO {a p x : Nat} : x ∈ primesHO a p ↔ a ≤ x ∧ x < p ∧ x.Prime := by
  unfold primesHO
  simp only [List.mem_filter, List.mem_range'_1, decide_eq_true_eq]
  constructor
  · rintro ⟨⟨h1, h2⟩, h3⟩; exact ⟨h1, by omega, h3⟩
  · rintro ⟨h1, h2, h3⟩; exact ⟨⟨h1, by omega⟩, h3⟩

theorem primesHO_nil_of_le {a p : Nat} (h : p ≤ a) : primesHO a p = [] := by
  unfold primesHO; rw [range'_sub_empty h]; rfl

theorem primesHO_unfold {a p : Nat} (h : a < p) :
    primesHO a p = if a.Prime then a :: primesHO (a + 1) p else primesHO (a + 1) p := by
  unfold primesHO
  have : p - a = (p - (a + 1)) + 1 := by omega
  rw [this, List.range'_succ, List.filter_cons]
  by_cases ha : a.Prime <;> simp [ha]

theorem primesHO_eq_nil_iff {a p : Nat} :
    primesHO a p = [] ↔ ∀ q, a ≤ q → q < p → ¬ q.Prime := by
  simp only [List.eq_nil_iff_forall_not_mem, mem_primesHO, not_and]

theorem primesHO_append {a b c : Nat} (h1 : a ≤ b) (h2 : b ≤ c) :
    primesHO a b ++ primesHO b c = primesHO a c := by
  unfold primesHO
  rw [← List.filter_append, range'_sub_append h1 h2]

/-- a prime above 5 has a bit in the sieve -/
theorem prime_coprime30 {p : Nat} (hp : p.Prime) (h : 5 < p) : Nat.gcd (p % 30) 30 = 1 := by
  have c : ∀ q, q.Prime → q ≤ 5 → Nat.Coprime p q := fun q hq h5 => (Nat.coprime_primes hp hq).2 (by omega)
  have h30 : Nat.gcd p (2 * (3 * 5)) = 1 := (c 2 Nat.prime_two (by omega)).mul_right
    ((c 3 Nat.prime_three (by omega)).mul_right (c 5 Nat.prime_five (by omega)))
  rwa [Nat.gcd_comm, Nat.gcd_rec] at h30

end Ps.Spec
