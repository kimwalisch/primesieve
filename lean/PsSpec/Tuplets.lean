/-
  PsSpec.Tuplets — prime k-tuplets (constellations) as primesieve counts and prints them, and
  counting over closed intervals.
-/
import PsSpec.Primes

namespace Ps.Spec

/-- offsets of the prime constellations primesieve counts, by kind (index 1..5 = twins .. sextuplets) -/
def patterns : Nat → List (List Nat)
  | 1 => [[0, 2]]
  | 2 => [[0, 2, 6], [0, 4, 6]]
  | 3 => [[0, 2, 6, 8]]
  | 4 => [[0, 2, 6, 8, 12], [0, 4, 6, 10, 12]]
  | 5 => [[0, 4, 6, 10, 12, 16]]
  | _ => []

def allPatterns : List (List Nat) :=
  [[0, 2], [0, 2, 6], [0, 4, 6], [0, 2, 6, 8], [0, 2, 6, 8, 12], [0, 4, 6, 10, 12], [0, 4, 6, 10, 12, 16]]

/-- all members p + d are prime -/
def tupletAt (ds : List Nat) (p : Nat) : Prop := ∀ d ∈ ds, (p + d).Prime

/-- largest offset of a pattern -/
def span (ds : List Nat) : Nat := ds.foldl max 0

open Classical in
/-- number of x in [lo, hi] with P x -/
noncomputable def countIn (P : Nat → Prop) (lo hi : Nat) : Nat :=
  ((List.range' lo (hi + 1 - lo)).filter (fun x => decide (P x))).length

/-- number of primes in [lo, hi] -/
noncomputable def primeCount (lo hi : Nat) : Nat := countIn Nat.Prime lo hi

/-- number of constellations of shape ds all of whose members lie in [lo, hi] -/
noncomputable def tupletCount (ds : List Nat) (lo hi : Nat) : Nat :=
  countIn (fun p => p + span ds ≤ hi ∧ tupletAt ds p) lo hi

open Classical in
/-- the constellations of kind `kind` inside [lo, hi], ordered by first member, each written out
    as the list of its members -/
noncomputable def tupletList (kind lo hi : Nat) : List (List Nat) :=
  (List.range' lo (hi + 1 - lo)).flatMap (fun p =>
    ((patterns kind).filter (fun ds => decide (p + span ds ≤ hi ∧ tupletAt ds p))).map
      (fun ds => ds.map (p + ·)))

end Ps.Spec
