/-
  PsSpec.Cursor — the abstract specification of an iterator: a cursor in the
  sequence 0, 2, 3, 5, 7, … (0 counts as the element before 2).
-/
import PsSpec.Primes
import PsModel.Iterator

namespace Ps.Spec
open Ps

/-- `fresh t`: positioned at t, nothing returned yet (the next call is inclusive);
    `at v`: v was returned last (or skipto(v)): the next call is exclusive. -/
inductive Cursor where
  | fresh (t : Nat)
  | at (v : Nat)

noncomputable def specNext : Cursor → Out × Cursor
  | .fresh t => if nextPrime t < U64 then (.val (nextPrime t), .at (nextPrime t))
                else (.err .overflow, .fresh t)
  | .at v => if nextPrime (v + 1) < U64 then (.val (nextPrime (v + 1)), .at (nextPrime (v + 1)))
             else (.err .overflow, .at v)

noncomputable def specPrev : Cursor → Out × Cursor
  | .fresh t => (.val (prevPrime t), .at (prevPrime t))
  | .at v => (.val (prevPrime (v - 1)), .at (prevPrime (v - 1)))

/-- the number from which the cursor's next `next_prime` looks upwards -/
def Cursor.fwdTarget : Cursor → Nat
  | .fresh t => t
  | .at v => v + 1

/-- the number from which the cursor's next `prev_prime` looks downwards -/
def Cursor.bwdTarget : Cursor → Nat
  | .fresh t => t
  | .at v => v - 1

theorem specNext_eq (c : Cursor) :
    specNext c = if nextPrime c.fwdTarget < U64
      then (.val (nextPrime c.fwdTarget), .at (nextPrime c.fwdTarget))
      else (.err .overflow, c) := by
  cases c <;> rfl

theorem specPrev_eq (c : Cursor) :
    specPrev c = (.val (prevPrime c.bwdTarget), .at (prevPrime c.bwdTarget)) := by
  cases c <;> rfl

/-- one operation on the abstract cursor; hints and block-length policy values are ignored;
    a failing call leaves the cursor where it was -/
noncomputable def specStep (c : Cursor) : Op → Out × Cursor
  | .next _ => specNext c
  | .prev => specPrev c
  | .jumpTo s _ => (.unit, .fresh s)
  | .skipTo s _ => (.unit, .at s)
  | .clear => (.unit, .fresh 0)
  | .moveIn => (.unit, c)
  | .moveOut => (.unit, .fresh 0)

noncomputable def specRun : Cursor → List Op → List Out
  | _, [] => []
  | c, op :: ops => (specStep c op).1 :: specRun (specStep c op).2 ops

/-- cursor after a history -/
noncomputable def specEnd : Cursor → List Op → Cursor
  | c, [] => c
  | c, op :: ops => specEnd (specStep c op).2 ops

theorem specRun_append (c : Cursor) (a b : List Op) :
    specRun c (a ++ b) = specRun c a ++ specRun (specEnd c a) b := by
  induction a generalizing c with
  | nil => rfl
  | cons op a ih => simp only [List.cons_append, specRun, specEnd, ih]

theorem specRun_length (c : Cursor) (a : List Op) : (specRun c a).length = a.length := by
  induction a generalizing c with
  | nil => rfl
  | cons op a ih => simp only [specRun, List.length_cons, ih]

/-- jump/skip targets are 64-bit values (stop hints are unconstrained) -/
def Op.WF : Op → Prop
  | .jumpTo s _ => s ≤ umax
  | .skipTo s _ => s ≤ umax
  | _ => True

end Ps.Spec
