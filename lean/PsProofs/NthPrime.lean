/-
  PsProofs.NthPrime — the correction walks of nthPrime return the n-th prime after / before start
  for every value of the approximations.
-/
import PsModel.NthPrime
import PsProofs.IterSim
import PsProofs.PrimeSeq
namespace Ps
open Ps.Spec

theorem iterNextN_spec {env : Env} (h : EnvOK env) (kf : Nat → Nat) :
    ∀ (k j : Nat) {it : Iter} {c : Cursor} (last : Nat), R it c → iterNextN env kf (k + 1) j it last =
      if primeSeq c.fwdTarget k < U64 then .ok (primeSeq c.fwdTarget k) else .error .overflow := by
  intro k j it c last hR
  have hn := next_sim h hR (kf j)
  unfold iterNextN
  split at hn <;> rename_i heq <;> rw [heq]
  · obtain ⟨hlt, rfl, hR'⟩ := hn
    match k with
    | 0 => exact (if_pos hlt).symm
    | k + 1 => exact (iterNextN_spec h kf k (j + 1) _ hR').trans (by rw [primeSeq_shift]; rfl)
  · obtain ⟨rfl, hlt, -⟩ := hn
    exact (if_neg fun hh => hlt (Nat.lt_of_le_of_lt (primeSeq_mono c.fwdTarget (Nat.zero_le _)) hh)).symm

theorem iterPrevN_spec {env : Env} (h : EnvOK env) : ∀ (k : Nat) {it : Iter} {c : Cursor} (last : Nat),
    R it c → iterPrevN env (k + 1) it last =
      if prevSeq c.bwdTarget k = 0 then .error .invalid else .ok (prevSeq c.bwdTarget k) := by
  intro k it c last hR
  obtain ⟨hv, hR'⟩ := prev_sim h hR
  rw [iterPrevN]
  simp only [hv]
  split
  · rename_i h0
    rw [if_pos (prevSeq_eq_zero_of_le (Nat.zero_le _) h0)]
  · match k with
    | 0 => exact (if_neg ‹_›).symm
    | k + 1 => rw [iterPrevN_spec h k _ hR', prevSeq_shift]; rfl

end Ps

namespace Ps.Nth
open Ps Ps.Spec

theorem nthPrime_neg (env : Env) (kf : Nat → Nat) (cnt : Nat → Nat → Nat) (o : NthOracle) {n : Int} (h : n < 0)
    (start : Nat) : nthPrime env kf cnt o n start =
      if n < -(max_n : Int) then .error .invalid else nthPrimeNeg env kf cnt o (-n).toNat start := by
  rw [nthPrime, if_pos h]

theorem nthPrime_pos (env : Env) (kf : Nat → Nat) (cnt : Nat → Nat → Nat) (o : NthOracle) {n : Int} (h : 0 < n)
    (start : Nat) : nthPrime env kf cnt o n start = nthPrimePos env kf cnt o n.toNat start := by
  rw [nthPrime, if_neg (by omega), if_neg (by omega)]

theorem iterNextN_mk' {env : Env} (henv : EnvOK env) (kf : Nat → Nat) (s h : Nat) (hs : s ≤ umax) (k : Nat)
    (hk : 1 ≤ k) :
    iterNextN env kf k 0 (Iter.mk' s h) 0 =
      if primeSeq s (k - 1) < U64 then .ok (primeSeq s (k - 1)) else .error .overflow := by
  obtain ⟨k, rfl⟩ : ∃ k', k = k' + 1 := ⟨k - 1, by omega⟩
  exact iterNextN_spec henv kf k 0 0 (R_mk' s h hs)

theorem iterPrevN_mk' {env : Env} (henv : EnvOK env) (t h : Nat) (ht : t ≤ umax) (k : Nat) (hk : 1 ≤ k) :
    iterPrevN env k (Iter.mk' t h) 0 =
      if prevSeq t (k - 1) = 0 then .error .invalid else .ok (prevSeq t (k - 1)) := by
  obtain ⟨k, rfl⟩ : ∃ k', k = k' + 1 := ⟨k - 1, by omega⟩
  exact iterPrevN_spec henv k 0 (R_mk' t h ht)

/-- the walk that ends nthPrime for n > 0: `c` primes were counted in (start, a]; if that is fewer than n, go
    on upwards from a, else go back downwards from a -/
theorem walkPos {env : Env} (henv : EnvOK env) (kf : Nat → Nat) {start a c n : Nat} (h1 h2 : Nat)
    (hsa : start ≤ a) (ha : a ≤ umax) (hc : c = (primesIn (start + 1) a).length) (hn : 1 ≤ n) :
    (if c < n then iterNextN env kf (n - c) 0 (Iter.mk' (checkedAdd a 1) h1) 0
      else iterPrevN env (c - n + 1) (Iter.mk' a h2) 0) =
      if primeSeq (start + 1) (n - 1) < U64 then .ok (primeSeq (start + 1) (n - 1)) else .error .overflow := by
  split
  · rw [iterNextN_mk' henv kf _ _ (checkedAdd_le_umax a 1) _ (by omega),
      primeSeq_congr (nextPrime_checkedAdd_one ha),
      primeSeq_after (start + 1) a (by omega), ← hc,
      show c + (n - c - 1) = n - 1 by omega]
  · rw [iterPrevN_mk' henv _ _ ha _ (by omega), prevSeq_before (start + 1) a _ (n - 1) (by omega)]
    have hle : primeSeq (start + 1) (n - 1) ≤ a := (primeSeq_le_iff _ _ _).2 (by omega)
    rw [if_neg (primeSeq_prime _ _).ne_zero, if_pos (by rw [U64_eq_succ]; omega)]

/-- `ho`: nthPrimeApprox returns a uint64_t -/
theorem nthPrimePos_value {env : Env} (henv : EnvOK env) (kf : Nat → Nat) (cnt : Nat → Nat → Nat)
    (hcnt : ∀ a b, cnt a b = (primesIn a b).length) (o : NthOracle) (ho : ∀ x, o.nthA x ≤ umax)
    (n start : Nat) (hn1 : 1 ≤ n) (hn : n ≤ max_n) (hs : start ≤ umax) :
    nthPrimePos env kf cnt o n start =
      if primeSeq (start + 1) (n - 1) < U64 then .ok (primeSeq (start + 1) (n - 1)) else .error .overflow := by
  unfold nthPrimePos
  rw [if_neg (Nat.not_lt.2 hn)]
  simp only
  generalize hpa0 : max (o.nthA (min (checkedAdd (o.piA start) n) max_n)) start = pa0
  have hpa0le : pa0 ≤ umax := by rw [← hpa0]; have := ho (min (checkedAdd (o.piA start) n) max_n); omega
  by_cases hcounted : pa0 - start > o.isqrt pa0 / 10
  · -- the bulk count ran: the anchor is max (start ⊕ 1) primeApprox
    simp only [hcounted, decide_true, if_true]
    have := checkedAdd_le_umax start 1
    rw [hcnt, show primesIn (checkedAdd start 1) (max (checkedAdd start 1) pa0) =
      primesIn (start + 1) (max (checkedAdd start 1) pa0) from primesHO_congr (nextPrime_checkedAdd_one hs) _]
    have hpa0ge : start ≤ pa0 := hpa0 ▸ Nat.le_max_right _ _
    exact walkPos henv kf _ _ (by omega) (by omega) rfl hn1
  · simp only [hcounted, decide_false, Bool.false_eq_true, if_false]
    exact walkPos henv kf _ _ (Nat.le_refl _) hs (by rw [primesIn, primesHO_nil_of_le (Nat.le_refl _)]; rfl) hn1

theorem checkedSub_one_le (x : Nat) (hx : x ≤ umax) : checkedSub x 1 ≤ umax := by
  rw [checkedSub_eq]; omega

/-- the walk that ends negativeNthPrime: `c` primes were counted in [a, start); if that is at least m, go
    upwards from a, else go on downwards from a - 1 -/
theorem walkNeg {env : Env} (henv : EnvOK env) (kf : Nat → Nat) {start a c m : Nat} (h1 h2 : Nat)
    (has : a ≤ start) (hs : start ≤ umax) (hc : c = (primesIn a (start - 1)).length) (hm : 1 ≤ m) :
    (if c ≥ m then iterNextN env kf (c - m + 1) 0 (Iter.mk' a h1) 0
      else iterPrevN env (m - c) (Iter.mk' (checkedSub a 1) h2) 0) =
      if prevSeq (start - 1) (m - 1) = 0 then .error .invalid else .ok (prevSeq (start - 1) (m - 1)) := by
  split
  · rw [iterNextN_mk' henv kf _ _ (by omega) _ (by omega), ← prevSeq_before a (start - 1) (m - 1) _ (by omega)]
    have hle := prevSeq_le (start - 1) (m - 1)
    have hp : (prevSeq (start - 1) (m - 1)).Prime :=
      prevSeq_before a (start - 1) (m - 1) (c - m) (by omega) ▸ primeSeq_prime _ _
    rw [if_neg hp.ne_zero, if_pos (by rw [U64_eq_succ]; omega)]
  · rw [checkedSub_eq, iterPrevN_mk' henv _ _ (by omega) _ (by omega),
      ← prevSeq_after a (start - 1) (by omega), ← hc, show c + (m - c - 1) = m - 1 by omega]

theorem nthPrimeNeg_value {env : Env} (henv : EnvOK env) (kf : Nat → Nat) (cnt : Nat → Nat → Nat)
    (hcnt : ∀ a b, cnt a b = (primesIn a b).length) (o : NthOracle)
    (m start : Nat) (hm1 : 1 ≤ m) (hm : m ≤ max_n) (hs : start ≤ umax) :
    nthPrimeNeg env kf cnt o m start =
      if m ≥ start ∨ prevSeq (start - 1) (m - 1) = 0 then .error .invalid
      else .ok (prevSeq (start - 1) (m - 1)) := by
  unfold nthPrimeNeg
  rw [if_neg (Nat.not_lt.2 hm)]
  by_cases hms : m ≥ start
  · simp [hms]
  simp only [hms, if_false, false_or]
  generalize min (o.nthA (min (checkedSub (o.piA start) m) max_n)) start = pa0
  by_cases hcounted : start - pa0 > o.isqrt start / 10
  · simp only [hcounted, decide_true, if_true]
    rw [hcnt, checkedSub_eq]
    exact walkNeg henv kf _ _ (by omega) hs rfl hm1
  · simp only [hcounted, decide_false, Bool.false_eq_true, if_false]
    exact walkNeg henv kf _ _ (Nat.le_refl _) hs (by rw [primesIn, primesHO_nil_of_le (by omega)]; rfl) hm1

end Ps.Nth
