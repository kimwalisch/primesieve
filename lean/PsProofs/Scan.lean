/-
  PsProofs.Scan — what the ideal generator of PsModel.Iterator hands out.
-/
import PsModel.Iterator
import PsProofs.PrimeLists

namespace Ps
open Ps.Spec

theorem scan_spec (isP : Nat → Bool) (fuel pos k : Nat) (acc : List Nat) :
    ∃ n, n ≤ fuel ∧
      scan isP fuel pos k acc = (acc.reverse ++ (List.range' pos n).filter isP, pos + n) ∧
      (n = fuel ∨ ((List.range' pos n).filter isP).length = k) := by
  fun_induction scan isP fuel pos k acc with
  | case1 pos k acc => exact ⟨0, Nat.le_refl 0, by simp, Or.inl rfl⟩
  | case2 fuel pos acc => exact ⟨0, Nat.zero_le _, by simp, Or.inr rfl⟩
  | case3 fuel pos k acc hp ih =>
    obtain ⟨n, hn, he, hk⟩ := ih
    refine ⟨n + 1, Nat.succ_le_succ hn, ?_, hk.imp (congrArg _) fun hk => ?_⟩
    · rw [he, List.range'_succ, List.filter_cons_of_pos hp, List.reverse_cons, List.append_assoc,
        List.singleton_append, Nat.add_assoc, Nat.add_comm 1 n]
    · rw [List.range'_succ, List.filter_cons_of_pos hp, List.length_cons, hk]
  | case4 fuel pos k acc hp ih =>
    obtain ⟨n, hn, he, hk⟩ := ih
    refine ⟨n + 1, Nat.succ_le_succ hn, ?_, hk.imp (congrArg _) fun hk => ?_⟩
    · rw [he, List.range'_succ, List.filter_cons_of_neg hp, Nat.add_assoc, Nat.add_comm 1 n]
    · rw [List.range'_succ, List.filter_cons_of_neg hp, hk]

-- definitionally `IsPrimeOK env.isPrime` (the hypothesis of the counting theorems, PsProps/C04)
/-- the primality test of the environment decides `Nat.Prime` -/
def EnvOK (env : Env) : Prop := ∀ n, env.isPrime n = true ↔ n.Prime

theorem filter_isPrime_eq {env : Env} (h : EnvOK env) (pos n : Nat) :
    (List.range' pos n).filter env.isPrime = primesHO pos (pos + n) := by
  unfold primesHO
  rw [Nat.add_sub_cancel_left]
  exact List.filter_congr fun x _ => Bool.eq_iff_iff.2 ((h x).trans decide_eq_true_iff.symm)

theorem fillNext_spec {env : Env} (h : EnvOK env) (g : IGen) (k : Nat) :
    match g.fillNext env k with
    | .error e => e = .overflow ∧ umax ≤ g.stop ∧ primesHO g.lo (g.stop + 1) = []
    | .ok (blk, g') =>
        g'.stop = g.stop ∧ g.lo ≤ g'.lo ∧ g'.lo ≤ max g.lo (g.stop + 1) ∧
        blk = primesHO g.lo g'.lo ∧ (∀ x ∈ blk, x ≤ g.stop) ∧
        (blk = [] → primesHO g.lo (g.stop + 1) = [] ∧ g.stop < umax) := by
  unfold IGen.fillNext
  obtain ⟨n, hn, he, hk⟩ := scan_spec env.isPrime (g.stop + 1 - g.lo) g.lo (max k 1) []
  simp only [he, List.reverse_nil, List.nil_append, filter_isPrime_eq h]
  -- an empty block: the scan, which wanted max k 1 ≥ 1 primes, ran to the end of the interval
  have hnil : primesHO g.lo (g.lo + n) = [] → primesHO g.lo (g.stop + 1) = [] := fun hnil => by
    rcases hk with hk | hk
    · exact primesHO_eq_nil_iff.2 fun q h1 h2 => primesHO_eq_nil_iff.1 hnil q h1 (by omega)
    · rw [filter_isPrime_eq h, hnil, List.length_nil] at hk; omega
  by_cases hc : ((primesHO g.lo (g.lo + n)).isEmpty && decide (g.stop ≥ umax)) = true
  · simp only [hc, if_true]
    simp only [Bool.and_eq_true, List.isEmpty_iff, decide_eq_true_eq] at hc
    exact ⟨trivial, hc.2, hnil hc.1⟩
  · simp only [hc]
    refine ⟨rfl, Nat.le_add_right _ _, by show g.lo + n ≤ _; omega, rfl, ?_, ?_⟩
    · intro x hx
      have := mem_primesHO.1 hx
      omega
    · intro hn'
      refine ⟨hnil hn', ?_⟩
      simp only [hn', List.isEmpty_nil, Bool.true_and, decide_eq_true_eq] at hc
      omega

theorem scan_all (isP : Nat → Bool) (fuel pos k : Nat) (acc : List Nat) (hk : fuel ≤ k) :
    scan isP fuel pos k acc = (acc.reverse ++ (List.range' pos fuel).filter isP, pos + fuel) := by
  obtain ⟨n, hn, he, hor⟩ := scan_spec isP fuel pos k acc
  have hlen := List.length_filter_le isP (List.range' pos n)
  rw [List.length_range'] at hlen
  obtain rfl : n = fuel := by omega
  exact he

theorem fillPrev_spec {env : Env} (h : EnvOK env) (a b : Nat) (hab : a ≤ b) :
    fillPrev env a b = (if a ≤ 2 then [0] else []) ++ primesHO a (b + 1) := by
  unfold fillPrev
  rw [scan_all _ _ _ _ _ (Nat.le_refl _)]
  simp only [List.reverse_nil, List.nil_append, filter_isPrime_eq h]
  have : a + (b + 1 - a) = b + 1 := by omega
  rw [this]

/-- the generator seen from the iterator: a block is a run that starts with the prime looked for; a chunk
    without primes moves the target to its end -/
theorem fillNext_sim {env : Env} (h : EnvOK env) (g : IGen) (k : Nat) (hlo : g.lo ≤ g.stop + 1) :
    match g.fillNext env k with
    | .error e => e = .overflow ∧ ¬ nextPrime g.lo < U64
    | .ok (blk, g') => g'.stop = g.stop ∧ g'.lo ≤ g'.stop + 1 ∧
        (blk = [] → nextPrime g.lo = nextPrime (g.stop + 1) ∧ g.stop < umax) ∧
        (blk ≠ [] → blk.getD 0 0 = nextPrime g.lo ∧ Consec blk ∧ (∀ x ∈ blk, x ≤ g.stop) ∧
          nextPrime (blk.getD (blk.length - 1) 0 + 1) = nextPrime g'.lo) := by
  have hsp := fillNext_spec h g k
  have hskip : primesHO g.lo (g.stop + 1) = [] → g.stop + 1 ≤ nextPrime g.lo := fun hnil =>
    Nat.le_of_not_lt fun hlt =>
      primesHO_eq_nil_iff.1 hnil _ (le_nextPrime _) hlt (nextPrime_prime _)
  split <;> rename_i hf <;> rw [hf] at hsp
  · obtain ⟨he, hstop, hnil⟩ := hsp
    have := hskip hnil
    exact ⟨he, by rw [U64_eq_succ]; omega⟩
  · obtain ⟨hgs, hle, hmax, hblk, hbound, hnil⟩ := hsp
    rw [Nat.max_eq_right hlo] at hmax
    refine ⟨hgs, by rw [hgs]; exact hmax, fun hb => ?_, fun hb => ?_⟩
    · obtain ⟨hnil, hlt⟩ := hnil hb
      exact ⟨nextPrime_eq_nextPrime hlo (primesHO_eq_nil_iff.1 hnil), hlt⟩
    · subst hblk
      refine ⟨primesHO_head hb, consec_primesHO _ _, hbound, ?_⟩
      have := (mem_primesHO.1 (getD_mem (List.length_pos_iff.2 hb))).2.1
      rw [primesHO_last hb, nextPrime_prevPrime_succ, Nat.sub_add_cancel (by omega)]

theorem fillPrev_sim {env : Env} (h : EnvOK env) (a b : Nat) (hab : a ≤ b) :
    (fillPrev env a b = [] → prevPrime b = prevPrime (a - 1)) ∧
    (fillPrev env a b ≠ [] →
      (fillPrev env a b).getD ((fillPrev env a b).length - 1) 0 = prevPrime b ∧
      Consec (fillPrev env a b) ∧ (∀ x ∈ fillPrev env a b, x ≤ b) ∧
      prevPrime ((fillPrev env a b).getD 0 0 - 1) = prevPrime (a - 1)) := by
  rw [fillPrev_spec h a b hab]
  by_cases ha : a ≤ 2
  · -- the sentinel 0 heads the run of all primes ≤ b
    have he : primesHO a (b + 1) = primesHO (0 + 1) (b + 1) :=
      primesHO_congr ((nextPrime_of_le_two ha).trans (nextPrime_of_le_two (Nat.le_succ 1)).symm) _
    have hz : prevPrime 0 = 0 := prevPrime_of_le_one (Nat.zero_le 1)
    obtain ⟨hc, hl⟩ := run_consec_last hz (Nat.succ_pos b)
    rw [if_pos ha, he, List.singleton_append]
    refine ⟨fun hn => (nomatch hn), fun _ => ⟨hl, hc, ?_, ?_⟩⟩
    · intro x hx
      rcases List.mem_cons.1 hx with rfl | hx
      · exact Nat.zero_le b
      · exact Nat.le_of_lt_succ (mem_primesHO.1 hx).2.1
    · rw [List.getD_cons_zero, prevPrime_of_le_one (by omega), prevPrime_of_le_one (by omega)]
  · rw [if_neg ha, List.nil_append]
    refine ⟨fun hn => ?_, fun hne => ⟨primesHO_last hne, consec_primesHO _ _, ?_, ?_⟩⟩
    · exact prevPrime_eq_prevPrime (by omega) fun q h1 h2 =>
        primesHO_eq_nil_iff.1 hn q (by omega) (by omega)
    · exact fun x hx => Nat.le_of_lt_succ (mem_primesHO.1 hx).2.1
    · rw [primesHO_head hne, prevPrime_nextPrime_pred]

end Ps
