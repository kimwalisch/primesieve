/-
  PsProofs.IterRun — lifting the one-step simulation to histories: what a run of next_prime / prev_prime
  calls returns, in terms of the enumerations of PsProofs.PrimeSeq.
-/
import PsProofs.IterSim
import PsProofs.PrimeSeq

namespace Ps
open Ps.Spec

theorem run_sim {env : Env} (h : EnvOK env) (ops : List Op) :
    ∀ (st : Iter) (c : Cursor), R st c → (∀ op ∈ ops, Op.WF op) →
      Iter.run env st ops = specRun c ops := by
  induction ops with
  | nil => intro st c _ _; rfl
  | cons op ops ih =>
    intro st c hR hwf
    have hs := step_sim h hR op (hwf op (List.mem_cons_self))
    simp only [Iter.run, specRun]
    rw [hs.1, ih _ _ hs.2 (fun o ho => hwf o (List.mem_cons_of_mem _ ho))]

noncomputable def fwdOut (s j : Nat) : Out :=
  if primeSeq s j < U64 then Out.val (primeSeq s j) else Out.err .overflow

theorem specRun_next (c : Cursor) (ks : List Nat) :
    specRun c (ks.map Op.next) = (List.range ks.length).map (fwdOut c.fwdTarget) := by
  induction ks generalizing c with
  | nil => rfl
  | cons k ks ih =>
    rw [List.map_cons, specRun, List.length_cons, List.range_succ_eq_map, List.map_cons,
      List.map_map]
    simp only [specStep]
    rw [specNext_eq]
    by_cases hlt : nextPrime c.fwdTarget < U64
    · rw [if_pos hlt, ih]
      refine congrArg₂ _ (if_pos hlt).symm (List.map_congr_left fun j _ => ?_)
      show fwdOut (nextPrime c.fwdTarget + 1) j = fwdOut c.fwdTarget (j + 1)
      unfold fwdOut; rw [primeSeq_shift]
    · -- the cursor stays, and so does the answer: the enumeration is above 2^64 from its start
      rw [if_neg hlt, ih]
      have hall : ∀ j, fwdOut c.fwdTarget j = Out.err .overflow := fun j =>
        if_neg fun hj => hlt (Nat.lt_of_le_of_lt (primeSeq_mono _ (Nat.zero_le j)) hj)
      refine congrArg₂ _ (hall 0).symm (List.map_congr_left fun j _ => ?_)
      rw [hall, Function.comp, hall]

theorem specRun_prev (c : Cursor) (n : Nat) :
    specRun c (List.replicate n Op.prev) =
      (List.range n).map (fun j => Out.val (prevSeq c.bwdTarget j)) := by
  induction n generalizing c with
  | zero => rfl
  | succ n ih =>
    rw [List.replicate_succ, specRun, List.range_succ_eq_map, List.map_cons, List.map_map]
    simp only [specStep]
    rw [specPrev_eq, ih]
    refine congrArg₂ _ rfl (List.map_congr_left fun j _ => ?_)
    show Out.val (prevSeq (prevPrime c.bwdTarget - 1) j) = Out.val (prevSeq c.bwdTarget (j + 1))
    rw [prevSeq_shift]

theorem run_next {env : Env} (h : EnvOK env) {st : Iter} {c : Cursor} (hR : R st c) (ks : List Nat) :
    Iter.run env st (ks.map Op.next) = (List.range ks.length).map (fwdOut c.fwdTarget) :=
  (run_sim h _ st c hR fun op hop => by
    obtain ⟨k, _, rfl⟩ := List.mem_map.1 hop; trivial).trans (specRun_next c ks)

theorem run_prev {env : Env} (h : EnvOK env) {st : Iter} {c : Cursor} (hR : R st c) (n : Nat) :
    Iter.run env st (List.replicate n Op.prev) =
      (List.range n).map (fun j => Out.val (prevSeq c.bwdTarget j)) :=
  (run_sim h _ st c hR fun op hop => by
    rw [List.eq_of_mem_replicate hop]; trivial).trans (specRun_prev c n)

end Ps
