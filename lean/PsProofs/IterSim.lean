/-
  PsProofs.IterSim — the iterator model refines the abstract cursor.

  A refill, forwards or backwards, looks for one number: the first prime at or above a target, or
  the last at or below it.  Moving the target across numbers that are not prime does not change that
  number, so every step of the refill loops is an equation between `nextPrime`s (or `prevPrime`s),
  and the contract of a refill (`NextPost`, `PrevPost`) is stated in terms of the number looked for.
-/
import PsSpec.Cursor
import PsProofs.Scan

namespace Ps
open Ps.Spec

-- elementary (3 ∣ 2^64 - 1), so that this module need not import MaxPrime
theorem nextPrime_umax : nextPrime umax = nextPrime (umax + 1) :=
  nextPrime_eq_nextPrime (Nat.le_succ _) fun q h1 h2 hq => by
    obtain rfl : q = umax := by omega
    have := hq.eq_one_or_self_of_dvd 3 (by decide)
    simp [umax] at this

theorem U64_le_nextPrime_umax : U64 ≤ nextPrime umax := by
  rw [nextPrime_umax, U64_eq_succ]; exact le_nextPrime _

/-- the saturating `checkedAdd(x, 1)` differs from x + 1 only at x = 2^64 - 1, which is not prime:
    a search for the next prime may start at either -/
theorem nextPrime_checkedAdd_one {x : Nat} (hx : x ≤ umax) : nextPrime (checkedAdd x 1) = nextPrime (x + 1) := by
  rw [checkedAdd_eq]
  by_cases hlt : x < umax
  · rw [Nat.min_eq_left hlt]
  · rw [show x = umax by omega, Nat.min_eq_right (Nat.le_succ _)]; exact nextPrime_umax

theorem updateNext_spec (o : Oracle) (st : Iter) (hs : st.stop ≤ umax) :
    nextPrime (updateNext o st).1 = nextPrime (if st.incl then st.stop else st.stop + 1) ∧
    (updateNext o st).1 ≤ (updateNext o st).2.1 ∧ (updateNext o st).2.1 ≤ umax := by
  obtain ⟨x, hx, he⟩ := updateNext_stop o st
  have hstart : nextPrime (updateNext o st).1 = nextPrime (if st.incl then st.stop else st.stop + 1) ∧
      (updateNext o st).1 ≤ umax := by
    rw [updateNext_start]
    cases st.incl
    · exact ⟨nextPrime_checkedAdd_one hs, checkedAdd_le_umax _ _⟩
    · exact ⟨rfl, hs⟩
  rw [he]
  exact ⟨hstart.1, by omega, by omega⟩

-- `seamF`: the search above the last buffered prime continues at the generator's `lo` (without
-- generator: beyond `stop`).  `seamB` (`gen = none`: the buffer comes from a backward refill): below
-- buf[0] the search continues at `start - 1`; after a forward fill `start` is stale, and
-- `generatePrev` replaces it by buf[0].
/-- invariant of an iterator whose buffer is non-empty -/
structure AtInv (st : Iter) : Prop where
  size_eq : st.size = st.buf.length
  i_lt : st.i < st.size
  consec : Consec st.buf
  incl : st.incl = false
  stop_le : st.stop ≤ umax
  start_le : st.start ≤ umax
  bound : ∀ x ∈ st.buf, x ≤ umax
  seamF : match st.gen with
    | some g => g.stop = st.stop ∧ g.lo ≤ g.stop + 1 ∧
        nextPrime (st.buf.getD (st.size - 1) 0 + 1) = nextPrime g.lo
    | none => nextPrime (st.buf.getD (st.size - 1) 0 + 1) = nextPrime (st.stop + 1)
  seamB : st.gen = none → prevPrime (st.buf.getD 0 0 - 1) = prevPrime (st.start - 1)

theorem atInv_buf {it : Iter} (h : AtInv it) : it.buf ≠ [] ∧ it.size = it.buf.length :=
  ⟨List.ne_nil_of_length_pos (h.size_eq ▸ Nat.zero_lt_of_lt h.i_lt), h.size_eq⟩

theorem AtInv.getD_le {st : Iter} (h : AtInv st) {j : Nat} (hj : j < st.size) : st.buf.getD j 0 ≤ umax :=
  h.bound _ (getD_mem (h.size_eq ▸ hj))

theorem AtInv.link {st : Iter} (h : AtInv st) {j : Nat} (hj : j + 1 < st.size) :
    Link (st.buf.getD j 0) (st.buf.getD (j + 1) 0) :=
  h.consec j (h.size_eq ▸ hj)

/-- contract of a forward refill that looks for the prime `p`: it fails exactly when `p` does not
    fit in 64 bits, and otherwise leaves a buffer that starts with `p` -/
def NextPost (p hint : Nat) : Except Err Iter → Prop
  | .error e => e = .overflow ∧ ¬ p < U64
  | .ok st' => p < U64 ∧ st'.i = 0 ∧ st'.buf.getD 0 0 = p ∧ AtInv st' ∧ st'.hint = hint

theorem NextPost.of_ge {p hint : Nat} {r : Except Err Iter} (h : NextPost p hint r) (hp : U64 ≤ p) :
    r = .error .overflow := by
  cases r with
  | error e => rw [h.1]
  | ok st' => exact absurd h.1 (Nat.not_lt.2 hp)

theorem nextPost_of_block {env : Env} (h : EnvOK env) {st : Iter} {g g' : IGen} {k : Nat}
    {blk : List Nat} (hgs : g.stop = st.stop) (hlo : g.lo ≤ g.stop + 1) (hincl : st.incl = false)
    (hstop : st.stop ≤ umax) (hstart : st.start ≤ umax)
    (hf : g.fillNext env k = .ok (blk, g')) (hb : blk ≠ []) :
    NextPost (nextPrime g.lo) st.hint
      (.ok { st with gen := some g', buf := blk, size := blk.length, i := 0 }) := by
  have hsim := fillNext_sim h g k hlo
  rw [hf] at hsim
  obtain ⟨hgs', hlo', _, hblk⟩ := hsim
  obtain ⟨hhead, hc, hbound, hseam⟩ := hblk hb
  have hlen : 0 < blk.length := List.length_pos_iff.2 hb
  have hle : ∀ x ∈ blk, x ≤ umax := fun x hx => Nat.le_trans (hbound x hx) (hgs ▸ hstop)
  refine ⟨?_, rfl, hhead, ?_, rfl⟩
  · have := hle _ (getD_mem hlen)
    rw [← hhead, U64_eq_succ]; omega
  · exact { size_eq := rfl, i_lt := hlen, consec := hc, incl := hincl, stop_le := hstop,
            start_le := hstart, bound := hle, seamF := ⟨hgs'.trans hgs, hlo', hseam⟩,
            seamB := nofun }

theorem genNextFresh_spec {env : Env} (h : EnvOK env) (k : Nat) (st : Iter)
    (hs : st.stop ≤ umax) :
    NextPost (nextPrime (if st.incl then st.stop else st.stop + 1)) st.hint
      (genNextFresh env k st) := by
  fun_induction genNextFresh env k st with
  | case1 st u g e hf =>
    obtain ⟨hT, hle, _⟩ := updateNext_spec env.o st hs
    have hsim := fillNext_sim h g k (Nat.le_succ_of_le hle)
    rw [hf] at hsim
    rw [← hT]; exact hsim
  | case2 st u g blk g' hf hb hlt hm ih =>
    obtain ⟨hT, hle, _⟩ := updateNext_spec env.o st hs
    have hsim := fillNext_sim h g k (Nat.le_succ_of_le hle)
    rw [hf] at hsim
    rw [← hT, (hsim.2.2.1 (List.isEmpty_iff.1 hb)).1]
    exact ih (Nat.le_of_lt hlt)
  | case3 st u g blk g' hf hb =>
    obtain ⟨hT, hle, hsu⟩ := updateNext_spec env.o st hs
    rw [← hT]
    exact nextPost_of_block h (st := { st with start := u.1, stop := u.2.1, dist := u.2.2, incl := false })
      (g := g) rfl (Nat.le_succ_of_le hle) rfl hsu (Nat.le_trans hle hsu) hf
      (fun hn => hb (List.isEmpty_iff.2 hn))

theorem genNextFresh_excl {env : Env} (h : EnvOK env) (k : Nat) (st : Iter)
    (hs : st.stop ≤ umax) (hi : st.incl = false) :
    NextPost (nextPrime (st.stop + 1)) st.hint (genNextFresh env k st) := by
  have := genNextFresh_spec h k st hs
  rwa [if_neg (by rw [hi]; exact Bool.false_ne_true)] at this

theorem generateNext_at {env : Env} (h : EnvOK env) (k : Nat) (st : Iter) (hinv : AtInv st) :
    NextPost (nextPrime (st.buf.getD (st.size - 1) 0 + 1)) st.hint (st.generateNext env k) := by
  have hseam := hinv.seamF
  unfold Iter.generateNext
  split <;> rename_i hg <;> rw [hg] at hseam
  · rw [hseam]
    exact genNextFresh_excl h k st hinv.stop_le hinv.incl
  · rename_i g
    obtain ⟨hgs, hlo, hseam⟩ := hseam
    have hsim := fillNext_sim h g k hlo
    rw [hseam]
    split <;> rename_i hf <;> rw [hf] at hsim
    · exact hsim
    · split <;> rename_i hb
      · rw [(hsim.2.2.1 (List.isEmpty_iff.1 hb)).1, hgs]
        exact genNextFresh_excl h k _ hinv.stop_le hinv.incl
      · exact nextPost_of_block h hgs hlo hinv.incl hinv.stop_le hinv.start_le hf
          (fun hn => hb (List.isEmpty_iff.2 hn))

/-- contract of a backward refill that looks for `p`, the last element of 0, 2, 3, 5, … at or below
    the target: the buffer ends with `p` and the index stands behind it -/
def PrevPost (p : Nat) (st' : Iter) : Prop :=
  st'.i = st'.size ∧ AtInv { st' with i := st'.size - 1 } ∧ st'.buf.getD (st'.size - 1) 0 = p

/-- the state in which `generate_prev_primes` leaves the iterator after filling the chunk [a, b] -/
theorem prevPost_of_block {env : Env} (h : EnvOK env) {a b : Nat} (hab : a ≤ b) (hb : b ≤ umax)
    (hne : fillPrev env a b ≠ []) (hint dist : Nat) :
    PrevPost (prevPrime b)
      { i := (fillPrev env a b).length, size := (fillPrev env a b).length, start := a, hint := hint,
        buf := fillPrev env a b, stop := b, dist := dist, incl := false, gen := none } := by
  obtain ⟨hlast, hc, hbound, hseam⟩ := (fillPrev_sim h a b hab).2 hne
  exact ⟨rfl, { size_eq := rfl, i_lt := Nat.sub_lt (List.length_pos_iff.2 hne) Nat.one_pos,
                consec := hc, incl := rfl, stop_le := hb, start_le := Nat.le_trans hab hb,
                bound := fun x hx => Nat.le_trans (hbound x hx) hb,
                seamF := hlast ▸ nextPrime_prevPrime_succ b, seamB := fun _ => hseam }, hlast⟩

theorem genPrevLoop_spec {env : Env} (h : EnvOK env) (st : Iter)
    (hT : (if st.incl then st.start else st.start - 1) ≤ umax) :
    PrevPost (prevPrime (if st.incl then st.start else st.start - 1)) (genPrevLoop env st) := by
  fun_induction genPrevLoop env st with
  | case1 st u blk hb hlt hm ih =>
    have hle : u.1 ≤ u.2.1 := updatePrev_le env.o st
    rw [← updatePrev_stop env.o st] at hT ⊢
    rw [(fillPrev_sim h u.1 u.2.1 hle).1 (List.isEmpty_iff.1 hb)]
    exact ih (Nat.le_trans (Nat.sub_le _ _) (Nat.le_trans hle hT))
  | case2 st u blk hb =>
    rw [← updatePrev_stop env.o st] at hT ⊢
    exact prevPost_of_block h (updatePrev_le env.o st) hT (fun hn => hb (List.isEmpty_iff.2 hn))
      st.hint u.2.2

theorem genPrevLoop_excl {env : Env} (h : EnvOK env) (st : Iter) (hi : st.incl = false)
    (hs : st.start - 1 ≤ umax) : PrevPost (prevPrime (st.start - 1)) (genPrevLoop env st) := by
  have hn : ¬ st.incl = true := by rw [hi]; exact Bool.false_ne_true
  have := genPrevLoop_spec h st (by rwa [if_neg hn])
  rwa [if_neg hn] at this

theorem generatePrev_at {env : Env} (h : EnvOK env) (st : Iter) (hinv : AtInv st) :
    PrevPost (prevPrime (st.buf.getD 0 0 - 1)) (st.generatePrev env) := by
  have hb0 := hinv.getD_le (Nat.zero_lt_of_lt hinv.i_lt)
  have hstart := hinv.start_le
  unfold Iter.generatePrev
  split <;> rename_i hg
  · rw [hinv.seamB hg]
    exact genPrevLoop_excl h st hinv.incl (by omega)
  · exact genPrevLoop_excl h { st with start := st.buf.getD 0 0, gen := none } hinv.incl
      (by show st.buf.getD 0 0 - 1 ≤ umax; omega)

/-- simulation relation between the iterator model and the abstract cursor: the iterator has just
    been positioned (constructor, jump_to, skipto, roll-back) or stands on an element of its buffer -/
inductive R : Iter → Cursor → Prop
  | fresh (s h : Nat) (b : Bool) : s ≤ umax →
      R { Iter.mk' s h with incl := b } (if b then .fresh s else .at s)
  | atv (st : Iter) : AtInv st → R st (.at (st.buf.getD st.i 0))

theorem R_mk' (s h : Nat) (hs : s ≤ umax) : R (Iter.mk' s h) (.fresh s) := R.fresh s h true hs

theorem generateNext_sim {env : Env} (h : EnvOK env) {st : Iter} {c : Cursor} (hR : R st c)
    (hi : st.i + 1 ≥ st.size) (k : Nat) :
    NextPost (nextPrime c.fwdTarget) st.hint (st.generateNext env k) := by
  cases hR with
  | fresh s hh b hs => cases b <;> exact genNextFresh_spec h k _ hs
  | atv _ hinv =>
    have := generateNext_at h k st hinv
    rwa [show st.size - 1 = st.i by have := hinv.i_lt; omega] at this

theorem generatePrev_sim {env : Env} (h : EnvOK env) {st : Iter} {c : Cursor} (hR : R st c)
    (hi : st.i = 0) : PrevPost (prevPrime c.bwdTarget) (st.generatePrev env) := by
  cases hR with
  | fresh s hh b hs => cases b <;> exact genPrevLoop_spec h _ (by simp only [Iter.mk']; split <;> omega)
  | atv _ hinv =>
    rw [hi]
    exact generatePrev_at h st hinv

/-- the roll-back of a failed refill leaves the cursor where it is: the snapshots taken by
    `generate_next_primes` (`j = size - 1`) and `generate_prev_primes` (`j = 0`) are the current
    element when a refill is due -/
theorem R_resetTo {st : Iter} {c : Cursor} (hR : R st c) {j : Nat} (hj : st.i < st.size → j = st.i) :
    R (st.resetTo (if st.size > 0 then (st.buf.getD j 0, false) else (st.start, st.incl))) c := by
  cases hR with
  | fresh s hh b hs => exact R.fresh s hh b hs
  | atv _ hinv =>
    rw [if_pos (Nat.zero_lt_of_lt hinv.i_lt), hj hinv.i_lt]
    exact R.fresh _ st.hint false (hinv.getD_le hinv.i_lt)

theorem next_sim {env : Env} (h : EnvOK env) {st : Iter} {c : Cursor} (hR : R st c) (k : Nat) :
    match st.next env k with
    | (.ok v, st') => nextPrime c.fwdTarget < U64 ∧ v = nextPrime c.fwdTarget ∧ R st' (.at v)
    | (.error e, st') => e = .overflow ∧ ¬ nextPrime c.fwdTarget < U64 ∧ R st' c := by
  unfold Iter.next
  by_cases hi : st.i + 1 ≥ st.size
  · have hg := generateNext_sim h hR hi k
    simp only [hi, if_true]
    cases hr : st.generateNext env k with
    | ok st' =>
      rw [hr] at hg
      obtain ⟨hlt, hi0, hhead, hinv, _⟩ := hg
      simp only
      rw [hi0, hhead]
      exact ⟨hlt, rfl, hhead ▸ hi0 ▸ R.atv st' hinv⟩
    | error e =>
      rw [hr] at hg
      exact ⟨hg.1, hg.2, R_resetTo hR (by omega)⟩
  · simp only [hi, if_false]
    cases hR with
    | fresh s hh b hs => exact absurd (Nat.zero_le _) hi
    | atv _ hinv =>
      have hlt : st.i + 1 < st.size := Nat.lt_of_not_le hi
      have hv := hinv.getD_le hlt
      have hc := (hinv.link hlt).1
      show nextPrime (st.buf.getD st.i 0 + 1) < U64 ∧ _
      exact ⟨by rw [← hc, U64_eq_succ]; omega, hc,
        R.atv { st with i := st.i + 1 } { hinv with i_lt := hlt }⟩

theorem prev_sim {env : Env} (h : EnvOK env) {st : Iter} {c : Cursor} (hR : R st c) :
    (st.prev env).1 = prevPrime c.bwdTarget ∧ R (st.prev env).2 (.at (prevPrime c.bwdTarget)) := by
  unfold Iter.prev
  by_cases hi : st.i = 0
  · obtain ⟨hi', hinv, hlast⟩ := generatePrev_sim h hR hi
    simp only [hi, if_true]
    rw [hi']
    exact ⟨hlast, hlast ▸ R.atv _ hinv⟩
  · simp only [hi, if_false]
    cases hR with
    | fresh s hh b hs => exact absurd rfl hi
    | atv _ hinv =>
      have hlt : st.i - 1 + 1 < st.size := by have := hinv.i_lt; omega
      have hc := (hinv.link hlt).2
      rw [Nat.sub_add_cancel (Nat.pos_of_ne_zero hi)] at hc
      exact ⟨hc, hc ▸ R.atv { st with i := st.i - 1 } { hinv with i_lt := Nat.lt_of_succ_lt hlt }⟩

theorem step_sim {env : Env} (h : EnvOK env) {st : Iter} {c : Cursor} (hR : R st c)
    (op : Op) (hop : Op.WF op) :
    (st.step env op).1 = (specStep c op).1 ∧ R (st.step env op).2 (specStep c op).2 := by
  cases op with
  | jumpTo s hh => exact ⟨rfl, R.fresh s hh true hop⟩
  | skipTo s hh => exact ⟨rfl, R.fresh s hh false hop⟩
  | clear => exact ⟨rfl, R.fresh 0 umax true (Nat.zero_le _)⟩
  | moveIn => exact ⟨rfl, hR⟩
  | moveOut => exact ⟨rfl, R.fresh 0 umax true (Nat.zero_le _)⟩
  | next k =>
    have hn := next_sim h hR k
    simp only [Iter.step, specStep]
    rw [specNext_eq]
    split at hn <;> rename_i heq <;> rw [heq]
    · obtain ⟨hlt, rfl, hR'⟩ := hn
      rw [if_pos hlt]; exact ⟨rfl, hR'⟩
    · obtain ⟨rfl, hlt, hR'⟩ := hn
      rw [if_neg hlt]; exact ⟨rfl, hR'⟩
  | prev =>
    obtain ⟨hv, hR'⟩ := prev_sim h hR
    simp only [Iter.step, specStep]
    rw [specPrev_eq, hv]
    exact ⟨rfl, hR'⟩

end Ps
