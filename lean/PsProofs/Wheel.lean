/-
  PsProofs.Wheel — the wheel layer of the sieve.  The regenerated wheel / cross-off tables equal their arithmetic
  specification (kernel-checked over all rows).  Everything else is proved once, for any wheel `Good M size init`
  (instances: 30 and 210): one step moves from p·q to p·q' with q' the next quotient coprime to the modulus, clearing
  the bit of p·q; a walk visits exactly the admissible quotients; addSievingPrime stores the first of them.
-/
import PsModel.Wheel
-- not used by any proof here: `unrolledSpec` (part of the statement of C01_crossoff_tables) sums with Mathlib's `Zero ℕ`
-- instance and would elaborate to a different term without it
import Mathlib.Data.Nat.Prime.Basic
namespace Ps.Wheel

theorem cls30 : cls 30 = [1, 7, 11, 13, 17, 19, 23, 29] := by decide +kernel

theorem eratMediumRows_spec : Gen.eratMediumRows = (specRows 30).map (fun r => (r.1, r.2.1, r.2.2.1)) := by
  decide +kernel
theorem eratSmallRows_spec : Gen.eratSmallRows = (specRows 30).map (fun r => (r.1, r.2.1, r.2.2.1)) :=
  (by decide : Gen.eratSmallRows = Gen.eratMediumRows).trans eratMediumRows_spec
theorem wheel210_spec : Gen.wheel210 = specRows 210 := by decide +kernel

/-- the masks: BITk clears exactly bit k -/
theorem bitMasks_spec : Gen.bitMasks = (List.range 8).map (fun k => 255 - 2 ^ k) := by decide

theorem wheel30Init_spec : Gen.wheel30Init = (List.range 30).map (specInit 30) := by decide +kernel
theorem wheel210Init_spec : Gen.wheel210Init = (List.range 210).map (specInit 210) := by decide +kernel

/-- wheelOffsets_[p % 30] = r·SIZE for the class r of p -/
theorem wheelOffsets_spec : ∀ r, r < 8 → Gen.wheelOffsetUnits.getD (primeRes.getD r 0) 0 = r := by decide

theorem wheelTypes_spec : Gen.wheelTypes = [("Wheel30_t", 30, 8, 6, "wheel30Init"), ("Wheel210_t", 210, 48, 10, "wheel210Init")] := by
  decide

/-- the unrolled loops of EratSmall are 8 consecutive single steps: store j uses the partial sums
    of the factors and corrections of rows 8g .. 8g+j-1, the stride is the full sum, maxOffset the
    last store -/
def unrolledSpec (g : Nat) : Nat × Nat × Nat × Nat × Nat × List (Nat × Nat × Nat) :=
  let rows := (List.range 8).map (fun k => specRow 30 g k)
  let pre := fun j => ((rows.take j).map (fun r => r.2.1)).sum
  let prc := fun j => ((rows.take j).map (fun r => r.2.2.1)).sum
  (8 * g, pre 7, prc 7, pre 8, prc 8, (List.range 8).map (fun j => (pre j, prc j, (rows.getD j (0,0,0,0)).1)))

theorem eratSmallUnrolled_spec :
    Gen.eratSmallUnrolled.map (fun u => (u.1, u.2.1, u.2.2.1, u.2.2.2.1, u.2.2.2.2.1)) =
      ((List.range 8).map unrolledSpec).map (fun u => (u.1, u.2.1, u.2.2.1, u.2.2.2.1, u.2.2.2.2.1)) ∧
    Gen.eratSmallUnrolled.map (fun u => u.2.2.2.2.2) = ((List.range 8).map unrolledSpec).map (fun u => u.2.2.2.2.2) := by
  constructor <;> decide +kernel

/-- every store offset sievingPrime·A + B of an unrolled loop of EratSmall is componentwise ≤ the loop's maxOffset -/
theorem unrolled_offsets_ok : ∀ u ∈ Gen.eratSmallUnrolled,
    (∀ st ∈ u.2.2.2.2.2, st.1 ≤ u.2.1 ∧ st.2.1 ≤ u.2.2.1 ∧ st.2.2 < 8) ∧ u.2.2.2.2.2.length = 8 := by decide +kernel

/-- a stored sieving prime `s` denotes the multiple p·q at position L + 30·idx + off(bit) -/
structure Denotes (M L : Nat) (s : SP) (q : Nat) : Prop where
  r_lt : s.w / (cls M).length < 8
  q_cls : q % M = (cls M).getD (s.w % (cls M).length) 0
  pos : (30 * s.sp + primeRes.getD (s.w / (cls M).length) 0) * q =
        L + 30 * s.idx + offs.getD (specRow M (s.w / (cls M).length) (s.w % (cls M).length)).1 0

def specStep (M : Nat) (s : SP) : SP :=
  let row := specRow M (s.w / (cls M).length) (s.w % (cls M).length)
  { sp := s.sp, idx := s.idx + s.sp * row.2.1 + row.2.2.1, w := row.2.2.2 }

def gapOf (M : Nat) (s : SP) : Nat := (specRow M (s.w / (cls M).length) (s.w % (cls M).length)).2.1
def bitOf (M : Nat) (s : SP) : Nat := (specRow M (s.w / (cls M).length) (s.w % (cls M).length)).1

def primeOf (M : Nat) (s : SP) : Nat := 30 * s.sp + primeRes.getD (s.w / (cls M).length) 0

def walk (M : Nat) : Nat → SP → Nat → SP × Nat
  | 0, s, q => (s, q)
  | n + 1, s, q => walk M n (specStep M s) (q + (specRow M (s.w / (cls M).length) (s.w % (cls M).length)).2.1)

theorem specRow_bit (M r k : Nat) : (specRow M r k).1 = bitIdx (primeRes.getD r 0 * clsAt M k) := rfl
theorem specRow_gap (M r k : Nat) : (specRow M r k).2.1 = clsAt M (k + 1) - clsAt M k := rfl
theorem specRow_corr (M r k : Nat) : (specRow M r k).2.2.1 =
    (offs.getD (specRow M r k).1 0 + primeRes.getD r 0 * (specRow M r k).2.1 -
      offs.getD (bitIdx (primeRes.getD r 0 * clsAt M (k + 1))) 0) / 30 := rfl
theorem specRow_next (M r k : Nat) : (specRow M r k).2.2.2 = r * (cls M).length + (k + 1) % (cls M).length := rfl

theorem clsAt_of_lt {M k : Nat} (h : k < (cls M).length) : clsAt M k = (cls M).getD k 0 := by
  unfold clsAt; rw [Nat.mod_eq_of_lt h, Nat.div_eq_of_lt h, Nat.mul_zero, Nat.add_zero]

theorem walk_succ (M n : Nat) (s : SP) (q : Nat) :
    walk M (n + 1) s q = walk M n (specStep M s) (q + gapOf M s) := rfl

theorem specStep_sp (M : Nat) (s : SP) : (specStep M s).sp = s.sp := rfl

theorem specStep_idx (M : Nat) (s : SP) : (specStep M s).idx =
    s.idx + s.sp * gapOf M s + (specRow M (s.w / (cls M).length) (s.w % (cls M).length)).2.2.1 := rfl

/-- wheelIndex = r·SIZE + k: the prime class r is the quotient, the quotient class k the remainder -/
theorem wheelIndex_div {n k : Nat} (r : Nat) (hk : k < n) : (r * n + k) / n = r := by
  rw [Nat.mul_comm, Nat.mul_add_div (Nat.zero_lt_of_lt hk), Nat.div_eq_of_lt hk, Nat.add_zero]

theorem wheelIndex_mod {n k : Nat} (r : Nat) (hk : k < n) : (r * n + k) % n = k := by
  rw [Nat.mul_comm, Nat.mul_add_mod, Nat.mod_eq_of_lt hk]

/-- the prime class is the same after a step -/
theorem specStep_group (M : Nat) (hpos : 0 < (cls M).length) (s : SP) :
    (specStep M s).w / (cls M).length = s.w / (cls M).length :=
  wheelIndex_div _ (Nat.mod_lt _ hpos)

/-- the quotient class moves on by one, cyclically -/
theorem specStep_class (M : Nat) (hpos : 0 < (cls M).length) (s : SP) :
    (specStep M s).w % (cls M).length = (s.w % (cls M).length + 1) % (cls M).length :=
  wheelIndex_mod _ (Nat.mod_lt _ hpos)

theorem walk_induct {M : Nat} {P : Nat → SP → Nat → Prop}
    (hstep : ∀ k s q, P k s q → P (k + 1) (specStep M s) (q + gapOf M s)) :
    ∀ n {s q}, P 0 s q → P n (walk M n s q).1 (walk M n s q).2 := by
  intro n
  induction n generalizing P with
  | zero => exact id
  | succ n ih => exact fun h0 => ih (P := fun k => P (k + 1)) (fun k => hstep (k + 1)) (hstep 0 _ _ h0)

theorem walk_add' (M : Nat) (a b : Nat) (s : SP) (q : Nat) :
    walk M (a + b) s q = walk M b (walk M a s q).1 (walk M a s q).2 := by
  induction a generalizing s q with
  | zero => rw [Nat.zero_add]; rfl
  | succ a ih => rw [Nat.add_right_comm, walk_succ, walk_succ, ih]

theorem walk_idx_mono (M : Nat) {i j : Nat} (h : i ≤ j) (s : SP) (q : Nat) :
    (walk M i s q).1.idx ≤ (walk M j s q).1.idx := by
  obtain ⟨d, rfl⟩ := Nat.exists_eq_add_of_le h
  rw [walk_add']
  exact walk_induct (P := fun _ s' _ => (walk M i s q).1.idx ≤ s'.idx) (fun _ s' _ h => by rw [specStep_idx]; omega) d
    (Nat.le_refl _)

theorem walk_sp (M n : Nat) (s : SP) (q : Nat) : (walk M n s q).1.sp = s.sp :=
  walk_induct (P := fun _ s' _ => s'.sp = s.sp) (fun _ _ _ h => h) n rfl

theorem walk_prime (M : Nat) (hpos : 0 < (cls M).length) (n : Nat) (s : SP) (q : Nat) :
    primeOf M (walk M n s q).1 = primeOf M s :=
  walk_induct (P := fun _ s' _ => primeOf M s' = primeOf M s)
    (fun _ s' _ h => by unfold primeOf at h ⊢; rwa [specStep_group M hpos]) n rfl

theorem offs_bounds : ∀ b, b < 8 → 7 ≤ offs.getD b 0 ∧ offs.getD b 0 ≤ 31 ∧ offs.getD b 0 ≠ 30 := by decide
theorem offs_coprime : ∀ b, b < 8 → Nat.gcd (offs.getD b 0) 30 = 1 := by decide

theorem byte_offset {L m o : Nat} (hL : L % 30 = 0) (hm : L + 6 < m) (ho : o % 30 = m % 30)
    (hb : 7 ≤ o ∧ o ≤ 31 ∧ o ≠ 30) : m = L + 30 * ((m - (L + 6)) / 30) + o := by omega

theorem offset_step {o o' x d : Nat} (ho : o % 30 = x % 30) (ho' : o' % 30 = (x + d) % 30) (hd : 0 < d)
    (hb : 7 ≤ o ∧ o ≤ 31 ∧ o ≠ 30) (hb' : 7 ≤ o' ∧ o' ≤ 31 ∧ o' ≠ 30) : o + d = 30 * ((o + d - o') / 30) + o' := by omega

theorem bitIdx_mod (x : Nat) : bitIdx (x % 30) = bitIdx x := by
  unfold bitIdx; rw [Nat.mod_mod]

theorem bitIdx_spec {x : Nat} (hx : Nat.gcd x 30 = 1) : bitIdx x < 8 ∧ offs.getD (bitIdx x) 0 % 30 = x % 30 := by
  have key : ∀ y, y < 30 → Nat.gcd y 30 = 1 → bitIdx y < 8 ∧ offs.getD (bitIdx y) 0 % 30 = y := by decide
  rw [← bitIdx_mod]
  exact key _ (Nat.mod_lt _ (by decide)) (by rwa [← Nat.mod_add_div x 30, Nat.gcd_add_mul_left_left] at hx)

theorem primeRes_coprime : ∀ r, r < 8 → Nat.gcd (primeRes.getD r 0) 30 = 1 ∧ 0 < primeRes.getD r 0 := by decide

/-- class k and its successor: `clsAt M` enumerates the numbers coprime to M in increasing order, leaving none out -/
def ClsOK (M k : Nat) : Prop :=
  clsAt M k < clsAt M (k + 1) ∧ Nat.gcd (clsAt M k) M = 1 ∧
  (∀ d, d < clsAt M (k + 1) - clsAt M k → 0 < d → Nat.gcd (clsAt M k + d) M ≠ 1) ∧
  clsAt M (k + 1) % M = (cls M).getD ((k + 1) % (cls M).length) 0

instance (M k : Nat) : Decidable (ClsOK M k) := by unfold ClsOK; infer_instance

/-- INIT[x] = (d, i): nothing in [x, x + d) is coprime to M, and x + d belongs to the class i (so it is) -/
def InitOK (M x : Nat) (e : Nat × Nat) : Prop :=
  (∀ d, d < e.1 → Nat.gcd (x + d) M ≠ 1) ∧ e.2 < (cls M).length ∧ (cls M).getD e.2 0 = (x + e.1) % M

instance (M x : Nat) (e : Nat × Nat) : Decidable (InitOK M x e) := by unfold InitOK; infer_instance

/-- `Wheel<M, size, ·, init>` (Wheel.hpp) is a wheel the cross-off algorithms can run on: what the theorems below need to
    know about the modulus, its classes and the INIT table.  (Quantifying over `init.zipIdx` instead of indices keeps the
    kernel's evaluation linear in the table.) -/
structure Good (M size : Nat) (init : List (Nat × Nat)) : Prop where
  size_eq : (cls M).length = size
  mod30 : M % 30 = 0
  pos : 0 < M
  lt32 : M < 4294967296
  cls_ok : ∀ k, k < size → ClsOK M k
  init_len : init.length = M
  init_all : ∀ e ∈ init.zipIdx, InitOK M e.2 e.1

theorem good30 : Good 30 8 Gen.wheel30Init :=
  ⟨by decide +kernel, by decide, by decide, by decide, by decide +kernel, by decide, by decide +kernel⟩

theorem good210 : Good 210 48 Gen.wheel210Init :=
  ⟨by decide +kernel, by decide, by decide, by decide, by decide +kernel, by decide +kernel, by decide +kernel⟩

variable {M size : Nat} {init : List (Nat × Nat)}

namespace Good

theorem init_ok (hG : Good M size init) {x : Nat} (hx : x < M) : InitOK M x (init.getD x (0, 0)) := by
  have h : x < init.length := hG.init_len ▸ hx
  rw [List.getD_eq_getElem?_getD, List.getElem?_eq_getElem h]
  exact hG.init_all (init[x], x) (List.mem_zipIdx_iff_getElem?.mpr (List.getElem?_eq_getElem h))

theorem size_pos (hG : Good M size init) : 0 < (cls M).length :=
  Nat.zero_lt_of_lt (hG.init_ok hG.pos).2.1

/-- because M + 1 is coprime to M -/
theorem init_le (hG : Good M size init) {x : Nat} (hx : x < M) : (init.getD x (0, 0)).1 ≤ M + 1 :=
  Nat.le_of_not_lt fun hlt => (hG.init_ok hx).1 (M + 1 - x) (by omega) <| by
    rw [show x + (M + 1 - x) = 1 + M * 1 by omega, Nat.gcd_add_mul_left_left, Nat.gcd_one_left]

theorem init_skip (hG : Good M size init) {q0 x : Nat} (h1 : q0 ≤ x) (h2 : x < q0 + (init.getD (q0 % M) (0, 0)).1) :
    Nat.gcd x M ≠ 1 := by
  have := (hG.init_ok (Nat.mod_lt q0 hG.pos)).1 (x - q0) (by omega)
  rwa [← Nat.gcd_add_mul_left_left M _ (q0 / M),
    show q0 % M + (x - q0) + M * (q0 / M) = x by have := Nat.mod_add_div q0 M; omega] at this

/-- for the prime class r and the quotient class k, the bit of the specification row is the bit of pr·c, and
    off(b) + pr·F = 30·C + off(b') with b' the bit of the next row (k + 1 taken cyclically) -/
theorem row (hG : Good M size init) {r k : Nat} (hr : r < 8) (hk : k < size) :
    (specRow M r k).1 < 8 ∧
    offs.getD (specRow M r k).1 0 % 30 = primeRes.getD r 0 * clsAt M k % 30 ∧
    offs.getD (specRow M r k).1 0 + primeRes.getD r 0 * (specRow M r k).2.1 =
      30 * (specRow M r k).2.2.1 + offs.getD (specRow M r ((k + 1) % (cls M).length)).1 0 := by
  have hsz := hG.size_pos
  have h30 : 30 ∣ M := Nat.dvd_of_mod_eq_zero hG.mod30
  have hcls := hG.cls_ok
  obtain rfl := hG.size_eq
  obtain ⟨hpr, hpos⟩ := primeRes_coprime r hr
  have hbit : ∀ c, Nat.gcd c M = 1 → bitIdx (primeRes.getD r 0 * c) < 8 ∧
      offs.getD (bitIdx (primeRes.getD r 0 * c)) 0 % 30 = primeRes.getD r 0 * c % 30 := fun c hc =>
    bitIdx_spec (Nat.Coprime.mul_left hpr (Nat.Coprime.coprime_dvd_right h30 hc))
  obtain ⟨hlt, hc, -, hmod⟩ := hcls k hk
  have hk' := Nat.mod_lt (k + 1) hsz
  -- c' = clsAt M (k + 1) and the class c'' it wraps to agree modulo M, hence modulo 30
  have hc'' := (hcls _ hk').2.1
  rw [clsAt_of_lt hk', ← hmod, ← Nat.gcd_add_mul_left_left M _ (clsAt M (k + 1) / M), Nat.mod_add_div] at hc''
  have hb' : (specRow M r ((k + 1) % (cls M).length)).1 = bitIdx (primeRes.getD r 0 * clsAt M (k + 1)) := by
    show bitIdx (primeRes.getD r 0 * clsAt M ((k + 1) % (cls M).length)) = _
    rw [clsAt_of_lt hk', ← hmod, ← bitIdx_mod, Nat.mul_mod, Nat.mod_mod_of_dvd _ h30, ← Nat.mul_mod, bitIdx_mod]
  obtain ⟨hb8, hbm⟩ := hbit _ hc
  obtain ⟨hb8', hbm'⟩ := hbit _ hc''
  refine ⟨hb8, hbm, ?_⟩
  rw [hb', specRow_corr, specRow_gap, specRow_bit]
  -- the offsets are congruent to pr·c resp. pr·c' = pr·c + pr·F
  have hmul : primeRes.getD r 0 * clsAt M (k + 1) =
      primeRes.getD r 0 * clsAt M k + primeRes.getD r 0 * (clsAt M (k + 1) - clsAt M k) := by
    rw [← Nat.mul_add]; congr 1; omega
  exact offset_step hbm (hmul ▸ hbm') (Nat.mul_pos hpos (Nat.sub_pos_of_lt hlt)) (offs_bounds _ hb8) (offs_bounds _ hb8')

end Good

/-- from a state denoting p·q the specification step leads to a state denoting p·q' with q' = q + gap the
    NEXT quotient coprime to M (q itself is coprime, nothing in between is) -/
theorem step_sound (hG : Good M size init) {L : Nat} {s : SP} {q : Nat} (h : Denotes M L s q) :
    Denotes M L (specStep M s) (q + gapOf M s) ∧ 0 < gapOf M s ∧ Nat.gcd q M = 1 ∧
    ∀ d, 0 < d → d < gapOf M s → Nat.gcd (q + d) M ≠ 1 := by
  obtain ⟨hr, hq, hp⟩ := h
  have hsz := hG.size_pos
  obtain rfl := hG.size_eq
  have hk := Nat.mod_lt s.w hsz
  obtain ⟨hlt, hgcd, hskip, hmod⟩ := hG.cls_ok _ hk
  obtain ⟨-, -, heq⟩ := hG.row hr hk
  have hgap : 0 < gapOf M s := Nat.sub_pos_of_lt hlt
  have hqd : q = clsAt M (s.w % (cls M).length) + M * (q / M) := by
    have := Nat.mod_add_div q M
    rw [hq, ← clsAt_of_lt hk] at this; omega
  refine ⟨⟨?_, ?_, ?_⟩, hgap, ?_, ?_⟩
  · rw [specStep_group M hsz]; exact hr
  · have : q + gapOf M s = clsAt M (s.w % (cls M).length + 1) + M * (q / M) := by
      show q + (clsAt M (s.w % (cls M).length + 1) - clsAt M (s.w % (cls M).length)) = _
      omega
    rw [specStep_class M hsz, ← hmod, this, Nat.add_mul_mod_self_left]
  · rw [specStep_group M hsz, specStep_class M hsz, specStep_idx, specStep_sp, Nat.mul_add, hp, Nat.add_mul, Nat.mul_assoc]
    -- 30·sp·F + pr·F is added on the left, and off(b) + pr·F = 30·C + off(b') by the row
    unfold gapOf
    omega
  · rw [hqd, Nat.gcd_add_mul_left_left]; exact hgcd
  · intro d hd0 hdF
    rw [show q + d = clsAt M (s.w % (cls M).length) + d + M * (q / M) by omega, Nat.gcd_add_mul_left_left]
    exact hskip d hdF hd0

/-- `Denotes` in the words of `primeOf` and `bitOf`: the multiple, its byte and its bit -/
theorem Denotes.pos' {L : Nat} {s : SP} {q : Nat} (h : Denotes M L s q) :
    primeOf M s * q = L + 30 * s.idx + offs.getD (bitOf M s) 0 := h.pos

theorem Denotes.coprime (hG : Good M size init) {L : Nat} {s : SP} {q : Nat} (h : Denotes M L s q) :
    Nat.gcd q M = 1 := (step_sound hG h).2.2.1

theorem Denotes.bit_lt (hG : Good M size init) {L : Nat} {s : SP} {q : Nat} (h : Denotes M L s q) :
    bitOf M s < 8 := (hG.row h.r_lt (hG.size_eq ▸ Nat.mod_lt _ hG.size_pos)).1

/-- from a state denoting p·q₀, n cross-off steps visit — in strictly increasing order and
    without omission — exactly the quotients q ≥ q₀ coprime to the wheel's modulus, and the state
    always denotes p·q for the quotient reached -/
theorem walk_exact (hG : Good M size init) (L : Nat) : ∀ n s q, Denotes M L s q →
    Denotes M L (walk M n s q).1 (walk M n s q).2 ∧ q + n ≤ (walk M n s q).2 ∧
    (∀ x, q ≤ x → x < (walk M n s q).2 → Nat.gcd x M = 1 → ∃ j, j < n ∧ (walk M j s q).2 = x) := by
  intro n
  induction n with
  | zero => intro s q h; exact ⟨h, Nat.le_refl _, fun x h1 h2 _ => absurd h2 (Nat.not_lt.mpr h1)⟩
  | succ n ih =>
    intro s q h
    obtain ⟨hd, hgap, -, hskip⟩ := step_sound hG h
    obtain ⟨ih1, ih2, ih3⟩ := ih _ _ hd
    rw [walk_succ]
    refine ⟨ih1, by omega, fun x hx1 hx2 hg => ?_⟩
    rcases Nat.eq_or_lt_of_le hx1 with rfl | hqx
    · exact ⟨0, Nat.succ_pos n, rfl⟩
    · -- x > q is coprime to M, so it is not below the next quotient
      have hge : q + gapOf M s ≤ x := Nat.le_of_not_lt fun hlt =>
        hskip (x - q) (by omega) (by omega) (by rwa [Nat.add_sub_cancel' hx1])
      obtain ⟨j, hj, hjx⟩ := ih3 x hge hx2 hg
      exact ⟨j + 1, by omega, hjx⟩

/-- every admissible multiple p·x with x at or above the starting quotient is reached by the walk, and the
    state reached denotes exactly that multiple (so the bit cleared there is the bit of p·x) -/
theorem walk_reaches (hG : Good M size init) {L : Nat} {s : SP} {q x : Nat} (h : Denotes M L s q) (hx : q ≤ x)
    (hg : Nat.gcd x M = 1) : ∃ j, (walk M j s q).2 = x ∧ Denotes M L (walk M j s q).1 x := by
  obtain ⟨-, hN, hall⟩ := walk_exact hG L (x - q + 1) s q h
  obtain ⟨j, -, hj⟩ := hall x hx (by omega) hg
  exact ⟨j, hj, hj ▸ (walk_exact hG L j s q h).1⟩

theorem specRows_getD (M w : Nat) (hw : w < 8 * (cls M).length) (d : Nat × Nat × Nat × Nat) :
    (specRows M).getD w d = specRow M (w / (cls M).length) (w % (cls M).length) := by
  unfold specRows
  rw [List.getD_eq_getElem?_getD, List.getElem?_map, List.getElem?_range hw]; rfl

theorem step30_eq (rows : List (Nat × Nat × Nat)) (hrows : rows = (specRows 30).map (fun r => (r.1, r.2.1, r.2.2.1)))
    (w : Nat) (hw : w < 64) (sp idx : Nat) :
    step30 rows ⟨sp, idx, w⟩ = ((specRow 30 (w / 8) (w % 8)).1, specStep 30 ⟨sp, idx, w⟩) := by
  have h8 := good30.size_eq
  have hrow : rows.getD w (0, 0, 0) = (fun r : Nat × Nat × Nat × Nat => (r.1, r.2.1, r.2.2.1)) (specRow 30 (w / 8) (w % 8)) := by
    have := specRows_getD 30 w (by rw [h8]; exact hw) (0, 0, 0, 0)
    rw [h8] at this
    rw [hrows, ← this, List.getD_eq_getElem?_getD, List.getD_eq_getElem?_getD, List.getElem?_map]
    cases (specRows 30)[w]? <;> rfl
  simp only [step30, specStep, h8, hrow, specRow_next, Nat.mod_add_mod]

/-- the concrete steps on the regenerated tables ARE the specification steps -/
theorem step30_medium_eq : ∀ w, w < 64 → ∀ sp idx,
    step30 Gen.eratMediumRows ⟨sp, idx, w⟩ =
      ((specRow 30 (w / 8) (w % 8)).1, specStep 30 ⟨sp, idx, w⟩) :=
  step30_eq _ eratMediumRows_spec

theorem step30_small_eq : ∀ w, w < 64 → ∀ sp idx,
    step30 Gen.eratSmallRows ⟨sp, idx, w⟩ =
      ((specRow 30 (w / 8) (w % 8)).1, specStep 30 ⟨sp, idx, w⟩) :=
  step30_eq _ eratSmallRows_spec

theorem step210_eq : ∀ w, w < 384 → ∀ sp idx,
    step210 ⟨sp, idx, w⟩ = ((specRow 210 (w / 48) (w % 48)).1, specStep 210 ⟨sp, idx, w⟩) := by
  intro w hw sp idx
  have h48 := good210.size_eq
  have hrow := specRows_getD 210 w (by rw [h48]; exact hw) (0, 0, 0, 0)
  rw [← wheel210_spec, h48] at hrow
  simp only [step210, specStep, hrow, h48, Nat.mul_comm]

theorem primeRes_cover : ∀ x, x < 30 → Nat.gcd x 30 = 1 →
    ∃ r, r < 8 ∧ primeRes.getD r 0 = x ∧ Gen.wheelOffsetUnits.getD x 0 = r := by decide +kernel

theorem mod30_of_mod210 (q : Nat) : q % 210 % 30 = q % 30 := by omega

/-- for p coprime to 30, a segment start L ≡ 0 (mod 30) and a quotient q of class k
    with p·q above L + 6, the state (p / 30, (p·q - (L + 6)) / 30, wheelOffsets_[p % 30] + k) denotes p·q -/
theorem denotes_encode (hG : Good M size init) {p L q k : Nat} (hp : Nat.gcd (p % 30) 30 = 1) (hL : L % 30 = 0)
    (hk : k < size) (hq : q % M = (cls M).getD k 0) (hgt : L + 6 < p * q) :
    Denotes M L ⟨p / 30, (p * q - (L + 6)) / 30, Gen.wheelOffsetUnits.getD (p % 30) 0 * size + k⟩ q := by
  obtain ⟨r, hr8, hrp, hru⟩ := primeRes_cover (p % 30) (Nat.mod_lt _ (by decide)) hp
  have hM30 := hG.mod30
  obtain rfl := hG.size_eq
  have hw := wheelIndex_div r hk
  have hwk := wheelIndex_mod r hk
  obtain ⟨hb8, hbmod, -⟩ := hG.row hr8 hk
  refine ⟨?_, ?_, ?_⟩
  · rw [hru, hw]; exact hr8
  · rw [hru, hwk]; exact hq
  · rw [hru, hw, hwk, hrp, Nat.div_add_mod p 30]
    have hmm : offs.getD (specRow M r k).1 0 % 30 = p * q % 30 := by
      rw [hbmod, hrp, clsAt_of_lt hk, ← hq, Nat.mul_mod, Nat.mod_mod, Nat.mod_mod_of_dvd q (Nat.dvd_of_mod_eq_zero hM30),
        ← Nat.mul_mod]
    exact byte_offset hL hgt hmm (offs_bounds _ hb8)

/-- the first multiple p·q₀ considered by addSievingPrime lies above L + 6 -/
theorem lt_first_multiple {p L q0 : Nat} (hp0 : 0 < p) (hq0 : (L + 6) / p + 1 ≤ q0) : L + 6 < p * q0 :=
  Nat.lt_of_lt_of_le (Nat.lt_mul_div_succ (L + 6) hp0) (Nat.mul_le_mul_left p hq0)

/-- a multiple p·x inside a segment (above L + 6) has a quotient at or above the first quotient
    addSievingPrime considers -/
theorem quotient_ge_first (p L x : Nat) (hp0 : 0 < p) (hpx : p ≤ x) (hn : L + 6 < p * x) :
    max p ((L + 6) / p + 1) ≤ x := by
  have : (L + 6) / p < x := by
    rw [Nat.div_lt_iff_lt_mul hp0, Nat.mul_comm]; exact hn
  omega

/-- the two guards of the exact function are one: the prime is stored iff p·(q₀ + d) ≤ stop, where q₀ is the first quotient
    considered and d = INIT[q₀ % M].nextMultipleFactor the distance to the next one coprime to M -/
theorem addSievingPrimeExact_eq (M size : Nat) (init : List (Nat × Nat)) (stop p L : Nat) :
    addSievingPrimeExact M size init stop p L =
      let q0 := max p ((L + 6) / p + 1)
      let e := init.getD (q0 % M) (0, 0)
      if p * (q0 + e.1) ≤ stop then
        some ⟨p / 30, (p * (q0 + e.1) - (L + 6)) / 30, Gen.wheelOffsetUnits.getD (p % 30) 0 * size + e.2⟩
      else none := by
  unfold addSievingPrimeExact
  simp only [Nat.mul_add]
  split
  · rw [if_neg (by omega)]
  · split
    · rw [if_neg (by omega)]
    · rw [if_pos (by omega)]

/-- for p coprime to 30 and a segment start L ≡ 0 (mod 30), what Wheel::addSievingPrime over
    unbounded integers stores denotes p·q for the LEAST q ≥ max(p, ⌊(L+6)/p⌋+1) coprime to the modulus, and p·q ≤ stop -/
theorem addSievingPrimeExact_spec (hG : Good M size init) (stop p L : Nat) (hp : Nat.gcd (p % 30) 30 = 1) (hp0 : 0 < p)
    (hL : L % 30 = 0) (s : SP) (h : addSievingPrimeExact M size init stop p L = some s) :
    ∃ q, Denotes M L s q ∧ max p ((L + 6) / p + 1) ≤ q ∧ p * q ≤ stop ∧
      (∀ x, max p ((L + 6) / p + 1) ≤ x → x < q → Nat.gcd x M ≠ 1) ∧ s.sp = p / 30 := by
  rw [addSievingPrimeExact_eq] at h
  simp only at h
  generalize hq0 : max p ((L + 6) / p + 1) = q0 at h ⊢
  obtain ⟨-, hk, hcls⟩ := hG.init_ok (Nat.mod_lt q0 hG.pos)
  generalize he : init.getD (q0 % M) (0, 0) = e at h hk hcls
  split at h
  · next hle =>
    cases h
    have hgt : L + 6 < p * (q0 + e.1) :=
      Nat.lt_of_lt_of_le (lt_first_multiple hp0 (by omega)) (Nat.mul_le_mul_left p (Nat.le_add_right _ _))
    exact ⟨q0 + e.1, denotes_encode hG hp hL (hG.size_eq ▸ hk) (by rw [hcls, Nat.mod_add_mod]) hgt, by omega, hle,
      fun x hx1 hx2 => hG.init_skip hx1 (he ▸ hx2), rfl⟩
  · cases h

/-- when addSievingPrime drops a prime, no admissible multiple of it lies at or below stop -/
theorem addSievingPrimeExact_none (hG : Good M size init) (stop p L : Nat)
    (h : addSievingPrimeExact M size init stop p L = none)
    (x : Nat) (hx : max p ((L + 6) / p + 1) ≤ x) (hg : Nat.gcd x M = 1) : stop < p * x := by
  rw [addSievingPrimeExact_eq] at h
  simp only at h
  split at h
  · cases h
  · next hgt =>
    -- x is at least q0 + d: everything in [q0, q0 + d) shares a factor with M
    exact Nat.lt_of_lt_of_le (Nat.lt_of_not_le hgt)
      (Nat.mul_le_mul_left p (Nat.le_of_not_lt fun hlt => hG.init_skip hx hlt hg))

theorem lt_2_32_of_sq_lt {p n : Nat} (hpp : p * p ≤ n) (hn : n < U64) : p < 4294967296 := by
  have hU : U64 = 18446744073709551616 := rfl
  refine Nat.lt_of_not_le fun hge => ?_
  have := Nat.mul_le_mul hge hge
  omega

/-- the guard `multiple < segmentLow`: for p < 2^32 a first multiple p·max(p, ⌊n/p⌋ + 1) beyond 2^64 - 1 is p·(⌊n/p⌋ + 1) ≤ n + p
    (as p·p < 2^64), which wraps to less than n -/
theorem mul64_first_multiple_lt {p n : Nat} (hp : p < 4294967296) (hn : n < U64) (h : U64 ≤ p * max p (n / p + 1)) :
    mul64 p (max p (n / p + 1)) < n := by
  have hU : U64 = 18446744073709551616 := rfl
  have hpp : p * p ≤ 4294967295 * 4294967295 := Nat.mul_le_mul (by omega) (by omega)
  rcases Nat.le_total p (n / p + 1) with hle | hle
  · rw [Nat.max_eq_right hle] at h ⊢
    unfold mul64
    rw [Nat.mul_add, Nat.mul_one] at h ⊢
    have := Nat.mul_div_le n p
    rw [Nat.mod_eq_sub_mod h, Nat.mod_eq_of_lt (by omega)]
    omega
  · rw [Nat.max_eq_left hle] at h
    omega

/-- the two overflow guards make 64-bit wrap-around invisible: for every sieving prime p < 2^32 (sieving primes are
    ≤ √stop), every segment start and every stop below 2^64, Wheel::addSievingPrime computed with wrapping
    uint64_t arithmetic returns exactly what the same function returns over unbounded integers: a product
    p·q that exceeds 2^64 wraps to a value below segmentLow and is caught by `multiple < segmentLow`;
    p·nextMultipleFactor never wraps; `nextMultiple > stop - multiple` is evaluated only when multiple ≤ stop -/
theorem addSievingPrime_eq_exact (hG : Good M size init) (stop p L : Nat) (hp0 : 0 < p) (hp : p < 4294967296)
    (hL : L + 6 < U64) (hstop : stop < U64) :
    addSievingPrime M size init stop p L = addSievingPrimeExact M size init stop p L := by
  unfold addSievingPrime addSievingPrimeExact
  have hU : U64 = 18446744073709551616 := rfl
  simp only [add64_of_lt hL]
  by_cases hP : p * max p ((L + 6) / p + 1) < U64
  · have hgt : L + 6 < p * max p ((L + 6) / p + 1) := lt_first_multiple hp0 (Nat.le_max_right _ _)
    generalize max p ((L + 6) / p + 1) = q0 at hP hgt ⊢
    -- p·nextMultipleFactor < 2^32·2^32
    have hnm : mul64 p (init.getD (q0 % M) (0, 0)).1 = p * (init.getD (q0 % M) (0, 0)).1 := by
      apply mul64_of_lt
      have := Nat.mul_le_mul (Nat.le_of_lt_succ hp) (Nat.le_trans (hG.init_le (Nat.mod_lt q0 hG.pos)) hG.lt32)
      omega
    rw [mul64_of_lt hP, hnm]
    by_cases c1 : p * q0 > stop
    · rw [if_pos (Or.inl c1), if_pos c1]
    · rw [if_neg (by omega), if_neg c1]
      by_cases c2 : p * (init.getD (q0 % M) (0, 0)).1 > stop - p * q0
      · rw [if_pos c2, if_pos (by omega)]
      · rw [if_neg c2, if_neg (by omega)]
  · rw [if_pos (Or.inr (mul64_first_multiple_lt hp hL (Nat.le_of_not_lt hP))), if_pos (by omega)]

theorem stored_reaches (hG : Good M size init) {stop p L : Nat} (hp : Nat.gcd (p % 30) 30 = 1) (hp0 : 0 < p)
    (hL : L % 30 = 0) {s : SP} (h : addSievingPrimeExact M size init stop p L = some s)
    {x : Nat} (hx : max p ((L + 6) / p + 1) ≤ x) (hg : Nat.gcd x M = 1) :
    ∃ q1 j, Denotes M L s q1 ∧ max p ((L + 6) / p + 1) ≤ q1 ∧ (walk M j s q1).2 = x ∧ Denotes M L (walk M j s q1).1 x := by
  obtain ⟨q1, hd, hq1, -, hleast, -⟩ := addSievingPrimeExact_spec hG stop p L hp hp0 hL s h
  obtain ⟨j, hj, hdj⟩ := walk_reaches hG hd (Nat.le_of_not_lt fun hlt => hleast x hx hlt hg) hg
  exact ⟨q1, j, hd, hq1, hj, hdj⟩

/-- the wheel of EratBig (`big`) resp. of EratSmall / EratMedium -/
theorem good_if (big : Bool) : Good (if big then 210 else 30) (if big then 48 else 8)
    (if big then Gen.wheel210Init else Gen.wheel30Init) := by
  cases big
  · exact good30
  · exact good210

end Ps.Wheel
