/-
  PsProofs.Locks — the source-lock table `Gen.modelSources` is a finite map (no function is listed
  twice), so selecting rows by name returns exactly the rows one names.  `eq_of_key_eq` says the
  same of any table without repeated keys; C16 uses it for the option table.
-/
import PsModel.Generated.Locks
import PsProofs.Attr

namespace Ps

theorem filter_keys_of_sublist {α β : Type} [DecidableEq α] {L E : List (α × β)} {keys : List α}
    (hL : (L.map Prod.fst).Nodup) (hE : E.Sublist L) (hk : E.map Prod.fst = keys) :
    L.filter (fun e => e.1 ∈ keys) = E := by
  subst hk
  induction hE with
  | slnil => rfl
  | @cons E L a hE ih =>
    rw [List.map_cons, List.nodup_cons] at hL
    have ha : a.1 ∉ E.map Prod.fst := fun h => hL.1 ((hE.map Prod.fst).subset h)
    rw [List.filter_cons_of_neg (by simpa using ha), ih hL.2]
  | @cons_cons E L a hE ih =>
    rw [List.map_cons, List.nodup_cons] at hL
    rw [List.filter_cons_of_pos (by simp)]
    refine congrArg _ (Eq.trans (List.filter_congr fun e he => ?_) (ih hL.2))
    have : e.1 ≠ a.1 := fun h => hL.1 (h ▸ List.mem_map_of_mem he)
    simp only [List.map_cons, List.mem_cons, this, false_or]

theorem eq_of_key_eq {α β : Type} [DecidableEq α] {L : List (α × β)} (hL : (L.map Prod.fst).Nodup)
    {e e' : α × β} (he : e ∈ L) (he' : e' ∈ L) (h : e.1 = e'.1) : e = e' := by
  have hf := filter_keys_of_sublist (keys := [e.1]) hL (List.singleton_sublist.mpr he) rfl
  have : e' ∈ L.filter (fun x => x.1 ∈ [e.1]) := List.mem_filter.mpr ⟨he', by simp [h]⟩
  rw [hf] at this
  exact (List.mem_singleton.mp this).symm

/-- one step of deciding `E <+ L` on closed tables from the left: rows with different keys differ
    (the other step is `List.cons_sublist_cons`) -/
theorem cons_sublist_cons_of_key_ne {α β : Type} {a a' : α} {b b' : β} {l₁ l₂ : List (α × β)} (h : a ≠ a') :
    ((a, b) :: l₁).Sublist ((a', b') :: l₂) ↔ ((a, b) :: l₁).Sublist l₂ := by
  rw [List.sublist_cons_iff]
  exact ⟨fun h' => h'.elim id fun ⟨_, hr, _⟩ => absurd (congrArg Prod.fst (List.cons.inj hr).1) h, Or.inl⟩

attribute [sublist_step] List.cons_sublist_cons cons_sublist_cons_of_key_ne List.nil_sublist ne_eq not_false_eq_true
attribute [sublist_step_proc] String.reduceEq

theorem Gen.modelSources_keys_nodup : (Gen.modelSources.map Prod.fst).Nodup := by decide +kernel

/-- Equal strings are compared as literals, by `rfl`; different ones by `String.reduceEq`, which
    exhibits the first differing character: both are cheap, whereas `decide` runs `String.decEq` on
    the UTF-8 bytes, dearest when the strings agree. -/
theorem Gen.modelSources_filter {E : List (String × String)} {names : List String}
    (hE : E.Sublist Gen.modelSources) (hn : E.map Prod.fst = names) :
    Gen.modelSources.filter (fun e => e.1 ∈ names) = E :=
  filter_keys_of_sublist Gen.modelSources_keys_nodup hE hn

end Ps
