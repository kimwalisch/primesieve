/-
  PsProofs.ByteSieve — what the bytes of the ideal sieve decode to.

  A byte is read in two ways.  The ideal byte is `bitsToNat (bitOffsets.map f)` for a predicate `f`
  on the eight offsets, and the decoders are characterised in terms of `f`
  (`testBit_ofPred`, `byteNumbers_ofPred`, `inByte_ofPred`).  An arbitrary byte value is read through
  `inByte`; a k-tuplet mask is contained in it iff every number the mask decodes to has its bit
  set (`mask_subset`).
-/
import PsProofs.Tuplets
import PsModel.CountPrint
import PsProofs.Bits
namespace Ps
open Ps.Spec

def inByte (byte x : Nat) : Bool := bitOffsets.zipIdx.any (fun ok => ok.1 == x && byte.testBit ok.2)

theorem idealByte_lt (isP : Nat → Bool) (s e base m : Nat) : idealByte isP s e base m < 256 := by
  have := bitsToNat_lt (idealBits isP s e base m)
  rwa [idealBits, List.length_map, show bitOffsets.length = 8 by decide] at this

theorem testBit_ofPred (f : Nat → Bool) {k x : Nat} (h : bitOffsets[k]? = some x) :
    (bitsToNat (bitOffsets.map f)).testBit k = f x := by
  rw [testBit_bitsToNat, List.getD_eq_getElem?_getD, List.getElem?_map, h]
  rfl

theorem byteNumbers_ofPred (f : Nat → Bool) (low : Nat) :
    byteNumbers (bitsToNat (bitOffsets.map f)) low = (bitOffsets.filter f).map (low + ·) := by
  unfold byteNumbers
  rw [List.filter_congr (fun ok h => testBit_ofPred f (List.mem_zipIdx_iff_getElem?.1 h))]
  conv_rhs => rw [← List.zipIdx_map_fst 0 bitOffsets, List.filter_map, List.map_map]
  rfl

theorem inByte_iff {byte x : Nat} :
    inByte byte x = true ↔ ∃ k, bitOffsets[k]? = some x ∧ byte.testBit k = true := by
  simp only [inByte, List.any_eq_true, Bool.and_eq_true, beq_iff_eq, List.mem_zipIdx_iff_getElem?]
  constructor
  · rintro ⟨ok, h, rfl, hb⟩; exact ⟨ok.2, h, hb⟩
  · rintro ⟨k, h, hb⟩; exact ⟨(x, k), h, rfl, hb⟩

theorem inByte_mem {byte x : Nat} (h : inByte byte x = true) : x ∈ bitOffsets := by
  obtain ⟨k, hk, _⟩ := inByte_iff.1 h
  exact List.mem_of_getElem? hk

theorem inByte_ofPred (f : Nat → Bool) (x : Nat) :
    inByte (bitsToNat (bitOffsets.map f)) x = true ↔ x ∈ bitOffsets ∧ f x = true := by
  rw [inByte_iff, List.mem_iff_getElem?]
  exact ⟨fun ⟨k, hk, hb⟩ => ⟨⟨k, hk⟩, testBit_ofPred f hk ▸ hb⟩,
    fun ⟨⟨k, hk⟩, hf⟩ => ⟨k, hk, (testBit_ofPred f hk).trans hf⟩⟩

theorem inByte_idealByte (isP : Nat → Bool) (s e base m x : Nat) :
    inByte (idealByte isP s e base m) x = true ↔
      x ∈ bitOffsets ∧ s ≤ base + 30 * m + x ∧ base + 30 * m + x ≤ e ∧ isP (base + 30 * m + x) = true := by
  rw [idealByte, idealBits, inByte_ofPred]
  simp only [Bool.and_eq_true, decide_eq_true_eq, and_assoc]

theorem mem_byteNumbers {byte low n : Nat} :
    n ∈ byteNumbers byte low ↔ ∃ k x, bitOffsets[k]? = some x ∧ byte.testBit k = true ∧ n = low + x := by
  simp only [byteNumbers, List.mem_map, List.mem_filter, List.mem_zipIdx_iff_getElem?]
  constructor
  · rintro ⟨ok, ⟨h, hb⟩, rfl⟩; exact ⟨ok.2, ok.1, h, hb, rfl⟩
  · rintro ⟨k, x, h, hb, rfl⟩; exact ⟨(x, k), ⟨h, hb⟩, rfl⟩

theorem byteNumbers_shift (byte B : Nat) : byteNumbers byte B = (byteNumbers byte 0).map (B + ·) := by
  simp [byteNumbers, List.map_map, Function.comp_def]

theorem length_byteNumbers (byte low : Nat) : (byteNumbers byte low).length = popcount8 byte := by
  unfold byteNumbers popcount8
  rw [List.length_map, show List.range 8 = bitOffsets.zipIdx.map Prod.snd by decide, List.filter_map,
    List.length_map]
  rfl

theorem length_byteTuplets (row : List Nat) (byte B : Nat) :
    (byteTuplets row byte B).length = kCount row byte := by
  simp [byteTuplets, kCount]

theorem bitOffsets_nodup : bitOffsets.Nodup := by decide

theorem mask_subset (byte : Nat) {b : Nat} (hb : b < 256) :
    byte &&& b = b ↔ ∀ n ∈ byteNumbers b 0, inByte byte n = true := by
  simp only [mem_byteNumbers, inByte_iff, Nat.zero_add]
  constructor
  · rintro h n ⟨k, x, hx, hk, rfl⟩
    rw [← h, Nat.testBit_and, Bool.and_eq_true] at hk
    exact ⟨k, hx, hk.1⟩
  · intro h
    apply Nat.eq_of_testBit_eq
    intro k
    rw [Nat.testBit_and]
    cases hk : b.testBit k
    · exact Bool.and_false _
    · have hk8 : k < bitOffsets.length :=
        (Nat.pow_lt_pow_iff_right (by decide)).1 (Nat.lt_of_le_of_lt (Nat.ge_two_pow_of_testBit hk) hb)
      obtain ⟨k', hk', hbit⟩ := h _ ⟨k, _, List.getElem?_eq_getElem hk8, hk, rfl⟩
      rw [← List.getElem?_eq_getElem hk8] at hk'
      -- the offsets are distinct, so the bit found for the number is bit k
      rw [(List.getElem?_inj hk8 bitOffsets_nodup).1 hk'.symm, hbit, Bool.and_true]

/-- the early exit of the walk over a row (`kCount`, `byteTuplets`) loses nothing when the row
    ascends and the entries wanted are not above the bound -/
theorem takeWhile_filter_sorted {row : List Nat} (hrow : row.Pairwise (· ≤ ·)) (x : Nat) (q : Nat → Bool)
    (hq : ∀ b, q b = true → b ≤ x) : (row.takeWhile (· ≤ x)).filter q = row.filter q := by
  induction row with
  | nil => rfl
  | cons a row ih =>
    rw [List.pairwise_cons] at hrow
    by_cases ha : a ≤ x
    · rw [List.takeWhile_cons_of_pos (by simpa using ha), List.filter_cons, List.filter_cons, ih hrow.2]
    · rw [List.takeWhile_cons_of_neg (by simpa using ha), List.filter_nil, eq_comm, List.filter_eq_nil_iff]
      intro c hc hqc
      have := hq c hqc
      rcases List.mem_cons.1 hc with rfl | hc
      · exact ha this
      · have := hrow.1 c hc; omega

theorem bitmasks_sorted : ∀ kind < 6, (Gen.bitmasks.getD kind []).Pairwise (· ≤ ·) := by decide

/-- the masks of row `kind` below the ~0 sentinel decode to the constellations of that kind that
    fit on the eight offsets of one byte, in ascending order -/
theorem masks_decode : ∀ kind < 6,
    ((Gen.bitmasks.getD kind []).filter (· < 256)).map (byteNumbers · 0) =
      (List.range' 7 30).flatMap (fun r =>
        ((patterns kind).filter (fun ds => ds.all (fun d => r + d ∈ bitOffsets))).map
          (fun ds => ds.map (r + ·))) := by
  decide +kernel

theorem byteTuplets_eq {kind : Nat} (hk : kind < 6) {byte : Nat} (hbyte : byte < 256) (low : Nat) :
    byteTuplets (Gen.bitmasks.getD kind []) byte low =
      (List.range' 7 30).flatMap (fun r =>
        ((patterns kind).filter (fun ds => ds.all (fun d => inByte byte (r + d)))).map
          (fun ds => ds.map (low + r + ·))) := by
  have hq : ∀ b, decide (byte &&& b = b) = true → b ≤ byte := fun b h =>
    (of_decide_eq_true h) ▸ Nat.and_le_left
  have hmask : ∀ b, decide (byte &&& b = b) = ((byteNumbers b 0).all (inByte byte) && decide (b < 256)) := by
    intro b
    by_cases hb : b < 256
    · rw [Bool.eq_iff_iff]; simpa [hb] using mask_subset byte hb
    · have : ¬ byte &&& b = b := fun h => by have := hq b (decide_eq_true h); omega
      simp [hb, this]
  unfold byteTuplets
  rw [takeWhile_filter_sorted (bitmasks_sorted kind hk) byte _ hq, List.filter_congr (fun b _ => hmask b), ← List.filter_filter,
    show (fun b => byteNumbers b low) = List.map (low + ·) ∘ (byteNumbers · 0) from
      funext fun b => byteNumbers_shift b low,
    ← List.map_map,
    show (fun b => (byteNumbers b 0).all (inByte byte)) =
      (fun t : List Nat => t.all (inByte byte)) ∘ (byteNumbers · 0) from rfl,
    ← List.filter_map, masks_decode kind hk, List.filter_flatMap, List.map_flatMap]
  apply List.flatMap_congr
  intro r _
  rw [List.filter_map, List.filter_filter, List.map_map, List.filter_congr fun ds _ => ?_]
  · exact List.map_congr_left fun ds _ => by simp only [Function.comp_def, List.map_map, Nat.add_assoc]
  · -- a pattern all of whose members have their bit set fits on the eight offsets
    rw [Bool.eq_iff_iff]
    simp only [Function.comp_def, List.all_map, Bool.and_eq_true, List.all_eq_true, decide_eq_true_eq]
    exact ⟨fun h => h.1, fun h => ⟨h, fun d hd => inByte_mem (h d hd)⟩⟩

theorem bitOffsets_eq_filter :
    bitOffsets = (List.range' 7 30).filter (fun r => Nat.gcd (r % 30) 30 = 1) := by
  decide

theorem prime_residue {B r : Nat} (hB : B % 30 = 0) (hp : (B + r).Prime) (h5 : 5 < B + r) :
    Nat.gcd (r % 30) 30 = 1 := by
  have := prime_coprime30 hp h5
  rwa [show (B + r) % 30 = r % 30 by omega] at this

theorem prime_offset {B r : Nat} (hB : B % 30 = 0) (h7 : 7 ≤ r) (h37 : r < 37) (hp : (B + r).Prime) :
    r ∈ bitOffsets := by
  rw [bitOffsets_eq_filter, List.mem_filter, List.mem_range'_1]
  exact ⟨⟨h7, h37⟩, decide_eq_true (prime_residue hB hp (by omega))⟩

open Classical in
theorem byteNumbers_ideal {isP : Nat → Bool} (hP : ∀ n, isP n = true ↔ n.Prime) (s e base m : Nat)
    (hB : base % 30 = 0) :
    byteNumbers (idealByte isP s e base m) (base + 30 * m) =
      (List.range' (base + 30 * m + 7) 30).filter (fun n => decide (s ≤ n ∧ n ≤ e ∧ n.Prime)) := by
  rw [idealByte, idealBits, byteNumbers_ofPred, ← List.map_add_range', List.filter_map, bitOffsets_eq_filter,
    List.filter_filter]
  congr 1
  apply List.filter_congr
  intro r hr
  have hr' := List.mem_range'_1.1 hr
  rw [Bool.eq_iff_iff]
  simp only [Function.comp_def, Bool.and_eq_true, decide_eq_true_eq, hP]
  constructor
  · exact fun h => ⟨h.1.1.1, h.1.1.2, h.1.2⟩
  · exact fun ⟨h1, h2, h3⟩ => ⟨⟨⟨h1, h2⟩, h3⟩, prime_residue (by omega) h3 (by omega)⟩

open Classical in
theorem byteTuplets_ideal {isP : Nat → Bool} (hP : ∀ n, isP n = true ↔ n.Prime) (s e base m kind : Nat)
    (hB : base % 30 = 0) (hk6 : kind < 6) :
    byteTuplets (Gen.bitmasks.getD kind []) (idealByte isP s e base m) (base + 30 * m) =
      (List.range' (base + 30 * m + 7) 30).flatMap (fun p =>
        ((patterns kind).filter (fun ds => decide (s ≤ p ∧ p + span ds ≤ e ∧ tupletAt ds p))).map
          (fun ds => ds.map (p + ·))) := by
  rw [byteTuplets_eq hk6 (idealByte_lt ..), ← List.map_add_range', List.flatMap_map]
  apply List.flatMap_congr
  intro r hr
  have hr' := List.mem_range'_1.1 hr
  congr 1
  apply List.filter_congr
  intro ds hds
  have hall := patterns_sub kind hk6 ds hds
  rw [Bool.eq_iff_iff, List.all_eq_true, decide_eq_true_eq]
  simp only [inByte_idealByte, hP, ← Nat.add_assoc]
  constructor
  · exact fun h => ⟨(h 0 (zero_mem_patterns ds hall)).2.1, (h _ (span_mem ds hall)).2.2.1, fun d hd => (h d hd).2.2.2⟩
  · rintro ⟨h1, h2, h3⟩ d hd
    -- the whole constellation lies inside this byte, and a prime there sits at one of the offsets
    have hw := tuplet_window hall h3 (by omega)
    have hdle := le_span ds hall d hd
    have hp := h3 d hd
    rw [Nat.add_assoc] at hp
    exact ⟨prime_offset (show (base + 30 * m) % 30 = 0 by omega) (by omega) (by omega) hp,
      Nat.le_trans h1 (Nat.le_add_right _ _), Nat.le_trans (Nat.add_le_add_left hdle _) h2, h3 d hd⟩

theorem flatten_blocks_flatMap {α : Type} (G : Nat → List α) (a w N : Nat) :
    ((List.range N).map (fun m => (List.range' (a + w * m) w).flatMap G)).flatten =
      (List.range' a (w * N)).flatMap G := by
  induction N with
  | zero => simp
  | succ N ih =>
    rw [List.range_succ, List.map_append, List.flatten_append, ih, Nat.mul_succ, ← List.range'_append_1,
      List.flatMap_append]
    simp

theorem filter_eq_flatMap {α : Type} (p : α → Bool) (l : List α) :
    l.filter p = l.flatMap (fun x => if p x then [x] else []) := by
  induction l with
  | nil => rfl
  | cons x l ih => simp only [List.filter_cons, List.flatMap_cons, ih]; split <;> simp

theorem flatMap_restrict {α : Type} (G : Nat → List α) {a s e c : Nat} (has : a ≤ s) (hse : s ≤ e)
    (hec : e ≤ c) (hG : ∀ x, (x < s ∨ e ≤ x) → G x = []) :
    (List.range' a (c - a)).flatMap G = (List.range' s (e - s)).flatMap G := by
  have h1 : (List.range' a (s - a)).flatMap G = [] :=
    List.flatMap_eq_nil_iff.2 fun x hx => hG x (Or.inl (by have := List.mem_range'_1.1 hx; omega))
  have h3 : (List.range' e (c - e)).flatMap G = [] :=
    List.flatMap_eq_nil_iff.2 fun x hx => hG x (Or.inr (List.mem_range'_1.1 hx).1)
  rw [← range'_sub_append has (Nat.le_trans hse hec), ← range'_sub_append hse hec, List.flatMap_append,
    List.flatMap_append, h1, h3, List.nil_append, List.append_nil]

/-- the byte grid starts at a multiple of 30 and its windows base+7+30m .. base+36+30m cover
    [max(start,7), stop] -/
theorem grid_facts {start stop : Nat} (h : max start 7 ≤ stop) :
    gridBase start % 30 = 0 ∧ gridBase start + 7 ≤ max start 7 ∧
    stop < gridBase start + 7 + 30 * gridBytes start stop := by
  have h7 : 7 ≤ max start 7 := Nat.le_max_right _ _
  unfold gridBase gridBytes gridBase byteRemainder
  generalize max start 7 = s at *
  omega

/-- `dec`: a per-byte decoder (`byteNumbers`, `byteTuplets row`); `G x`: what it has to emit for
    the number x -/
theorem sieve_flatMap {α : Type} (dec : Nat → Nat → List α) (G : Nat → List α) (isP : Nat → Bool)
    {start stop : Nat} (h : max start 7 ≤ stop)
    (hdec : ∀ base m, base % 30 = 0 → dec (idealByte isP (max start 7) stop base m) (base + 30 * m) =
      (List.range' (base + 30 * m + 7) 30).flatMap G)
    (hG : ∀ x, (x < max start 7 ∨ stop < x) → G x = []) :
    ((List.range (gridBytes start stop)).map (fun m =>
      dec (idealByte isP (max start 7) stop (gridBase start) m) (gridBase start + 30 * m))).flatten =
      (List.range' (max start 7) (stop + 1 - max start 7)).flatMap G := by
  obtain ⟨hB, hlo, hhi⟩ := grid_facts h
  have hmap : ∀ m, dec (idealByte isP (max start 7) stop (gridBase start) m) (gridBase start + 30 * m) =
      (List.range' (gridBase start + 7 + 30 * m) 30).flatMap G := by
    intro m
    rw [hdec _ m hB, Nat.add_right_comm]
  rw [List.map_congr_left (fun m _ => hmap m), flatten_blocks_flatMap,
    ← Nat.add_sub_cancel_left (n := gridBase start + 7) (m := 30 * gridBytes start stop),
    flatMap_restrict G hlo (Nat.le_succ_of_le h) hhi (fun x hx => hG x (by omega))]

end Ps
