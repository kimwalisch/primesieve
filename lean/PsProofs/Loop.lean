/-
  PsProofs.Loop — the loops of the model are recursions on a fuel argument,
      F (fuel + 1) s = if c s then F fuel (step s) else out s,   F 0 s = out s.
  `fuelLoop_rule` is Hoare's while rule (total correctness) for every such F: an invariant, a measure, one step.
  At a call `F` is the model's function and the two equations hold by `rfl`; `c`, `step` and `out` are found by unification.
-/
namespace Ps

theorem fuelLoop_rule {σ : Type u} {β : Type v} {F : Nat → σ → β} {c : σ → Prop} [DecidablePred c]
    {step : σ → σ} {out : σ → β}
    (h1 : ∀ fuel s, F (fuel + 1) s = if c s then F fuel (step s) else out s) (h0 : ∀ s, F 0 s = out s)
    (I : σ → Prop) (μ : σ → Nat) (hstep : ∀ s, I s → c s → I (step s) ∧ μ (step s) < μ s) :
    ∀ fuel s, I s → μ s ≤ fuel → ∃ s', I s' ∧ ¬ c s' ∧ F fuel s = out s' := by
  intro fuel
  induction fuel with
  | zero => exact fun s hs hf => ⟨s, hs, fun hc => by have := (hstep s hs hc).2; omega, h0 s⟩
  | succ f ih =>
    intro s hs hf
    rw [h1]
    by_cases hc : c s
    · rw [if_pos hc]
      exact ih _ (hstep s hs hc).1 (by have := (hstep s hs hc).2; omega)
    · rw [if_neg hc]
      exact ⟨s, hs, hc, rfl⟩

theorem fuelLoop_rule₂ {α : Type u} {β : Type v} {γ : Type w} {F : Nat → α → β → γ} {c : α → β → Prop}
    [∀ a b, Decidable (c a b)] {f : α → β → α} {g : α → β → β} {out : α → β → γ}
    (h1 : ∀ fuel a b, F (fuel + 1) a b = if c a b then F fuel (f a b) (g a b) else out a b)
    (h0 : ∀ a b, F 0 a b = out a b)
    (I : α → β → Prop) (μ : α → β → Nat)
    (hstep : ∀ a b, I a b → c a b → I (f a b) (g a b) ∧ μ (f a b) (g a b) < μ a b)
    (fuel : Nat) (a : α) (b : β) (hI : I a b) (hμ : μ a b ≤ fuel) :
    ∃ a' b', I a' b' ∧ ¬ c a' b' ∧ F fuel a b = out a' b' :=
  have ⟨(a', b'), h⟩ := fuelLoop_rule (F := fun n x => F n x.1 x.2) (c := fun x => c x.1 x.2)
    (step := fun x => (f x.1 x.2, g x.1 x.2)) (out := fun x => out x.1 x.2) (fun _ _ => h1 _ _ _) (fun _ => h0 _ _)
    (fun x => I x.1 x.2) (fun x => μ x.1 x.2) (fun _ => hstep _ _) fuel (a, b) hI hμ
  ⟨a', b', h⟩

end Ps
