/-
  PsProofs.Bits — `bitsToNat` read back bit by bit; shared by the ideal sieve bytes (ByteSieve) and
  the pre-sieve table bytes (PreSieve).
-/
import PsModel.CountPrint
namespace Ps

theorem testBit_bitsToNat (l : List Bool) (k : Nat) : (bitsToNat l).testBit k = l.getD k false := by
  induction l generalizing k with
  | nil => simp [bitsToNat]
  | cons b bs ih =>
    cases k with
    | zero =>
      simp only [bitsToNat, Nat.testBit_zero, List.getD_cons_zero]
      cases b <;> simp
    | succ k =>
      rw [Nat.testBit_succ]
      have : (bitsToNat (b :: bs)) / 2 = bitsToNat bs := by
        simp only [bitsToNat]; cases b <;> simp <;> omega
      rw [this, ih]; simp

theorem bitsToNat_lt (l : List Bool) : bitsToNat l < 2 ^ l.length := by
  induction l with
  | nil => simp [bitsToNat]
  | cons b bs ih =>
    simp only [bitsToNat, List.length_cons, Nat.pow_succ]
    cases b <;> simp <;> omega

end Ps
