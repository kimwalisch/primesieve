/-
  PsProofs.PrimeSeq — the two enumerations the iterator theorems speak of (`primeSeq s`: the primes ≥ s
  upwards, `prevSeq t`: the primes ≤ t downwards, then 0 for ever) and how they sit in the lists
  `primesHO` / `primesIn`.  No iterator in here.
-/
import PsProofs.PrimeLists

namespace Ps
open Ps.Spec

/-- the j-th prime ≥ s (0-based) -/
noncomputable def primeSeq (s : Nat) : Nat → Nat
  | 0 => nextPrime s
  | j + 1 => nextPrime (primeSeq s j + 1)

/-- the j-th element ≤ t of 0, 2, 3, 5, …, counted downwards -/
noncomputable def prevSeq (t : Nat) : Nat → Nat
  | 0 => prevPrime t
  | j + 1 => prevPrime (prevSeq t j - 1)

theorem primeSeq_succ (s j : Nat) : primeSeq s (j + 1) = nextPrime (primeSeq s j + 1) := rfl

theorem primeSeq_shift (a : Nat) : ∀ j, primeSeq a (j + 1) = primeSeq (nextPrime a + 1) j
  | 0 => rfl
  | j + 1 => congrArg (fun x => nextPrime (x + 1)) (primeSeq_shift a j)

theorem primeSeq_congr {s s' : Nat} (h : nextPrime s = nextPrime s') : ∀ j, primeSeq s j = primeSeq s' j
  | 0 => h
  | j + 1 => congrArg (fun x => nextPrime (x + 1)) (primeSeq_congr h j)

theorem primeSeq_prime (s j : Nat) : (primeSeq s j).Prime := by
  cases j <;> exact nextPrime_prime _

theorem primeSeq_ge (s j : Nat) : s ≤ primeSeq s j := by
  induction j with
  | zero => exact le_nextPrime s
  | succ j ih => have := le_nextPrime (primeSeq s j + 1); simp only [primeSeq]; omega

theorem primeSeq_lt_succ (s j : Nat) : primeSeq s j < primeSeq s (j + 1) := by
  have := le_nextPrime (primeSeq s j + 1); simp only [primeSeq]; omega

theorem primeSeq_strictMono (s : Nat) : StrictMono (primeSeq s) :=
  strictMono_nat_of_lt_succ (primeSeq_lt_succ s)

theorem primeSeq_mono (s : Nat) {i j : Nat} (h : i ≤ j) : primeSeq s i ≤ primeSeq s j :=
  (primeSeq_strictMono s).monotone h

theorem prevSeq_shift (t : Nat) : ∀ j, prevSeq t (j + 1) = prevSeq (prevPrime t - 1) j
  | 0 => rfl
  | j + 1 => congrArg (fun x => prevPrime (x - 1)) (prevSeq_shift t j)

theorem prevSeq_zero_or_prime (t j : Nat) : prevSeq t j = 0 ∨ (prevSeq t j).Prime := by
  cases j <;> exact prevPrime_zero_or_prime _

theorem prevSeq_le (t j : Nat) : prevSeq t j ≤ t := by
  induction j with
  | zero => exact prevPrime_le t
  | succ j ih => have := prevPrime_le (prevSeq t j - 1); simp only [prevSeq]; omega

theorem prevSeq_succ_lt (t j : Nat) (h : prevSeq t j ≠ 0) : prevSeq t (j + 1) < prevSeq t j := by
  have := prevPrime_le (prevSeq t j - 1); simp only [prevSeq]; omega

theorem prevSeq_zero_sticky (t j : Nat) (h : prevSeq t j = 0) : prevSeq t (j + 1) = 0 := by
  simp only [prevSeq, h]
  exact prevPrime_eq_zero (fun q hq => not_prime_le_one (by omega))

theorem prevSeq_eq_zero_of_le {t i j : Nat} (hij : i ≤ j) (h : prevSeq t i = 0) : prevSeq t j = 0 := by
  induction j, hij using Nat.le_induction with
  | base => exact h
  | succ j _ ih => exact prevSeq_zero_sticky t j ih

/-- the first n primes ≥ start -/
noncomputable def firstN (start n : Nat) : List Nat := (List.range n).map (primeSeq start)

theorem firstN_length (start n : Nat) : (firstN start n).length = n := by simp [firstN]

theorem firstN_succ (a n : Nat) : firstN a (n + 1) = nextPrime a :: firstN (nextPrime a + 1) n := by
  unfold firstN
  rw [List.range_succ_eq_map, List.map_cons, List.map_map]
  exact congrArg _ (List.map_congr_left fun j _ => primeSeq_shift a j)

theorem firstN_getD (start n j : Nat) (hj : j < n) : (firstN start n).getD j 0 = primeSeq start j := by
  simp [firstN, List.getD_eq_getElem?_getD, hj]

theorem firstN_take (start n m : Nat) (h : m ≤ n) : (firstN start n).take m = firstN start m := by
  unfold firstN
  rw [← List.map_take, List.take_range, Nat.min_eq_left h]

theorem firstN_prefix {s n : Nat} {l r : List Nat} (h : l ++ r = firstN s n) : l = firstN s l.length := by
  have hn := congrArg List.length h
  rw [List.length_append, firstN_length] at hn
  have := congrArg (List.take l.length) h
  rwa [List.take_left', firstN_take _ _ _ (by omega)] at this
  rfl

theorem firstN_append_getD {s n j : Nat} {l r : List Nat} (h : l ++ r = firstN s n) (hj : j < r.length) :
    r.getD j 0 = primeSeq s (l.length + j) := by
  have hn := congrArg List.length h
  rw [List.length_append, firstN_length] at hn
  rw [← firstN_getD s n _ (by omega), ← h]
  simp [List.getD_eq_getElem?_getD, List.getElem?_append_right]

theorem primesHO_eq_firstN_of_length (p : Nat) : ∀ (n a : Nat), (primesHO a p).length = n → primesHO a p = firstN a n ∧ p ≤ primeSeq a n
  | 0, a, h => by
    rw [primesHO_eq_cons] at h ⊢
    split at h
    · cases h
    · exact ⟨by rw [if_neg ‹_›]; rfl, Nat.le_of_not_lt ‹_›⟩
  | n + 1, a, h => by
    rw [primesHO_eq_cons] at h ⊢
    split at h
    · have ih := primesHO_eq_firstN_of_length p n _ (Nat.succ.inj h)
      rw [if_pos ‹_›, ih.1, firstN_succ, primeSeq_shift]
      exact ⟨rfl, ih.2⟩
    · cases h

theorem primesHO_eq_firstN (a p : Nat) :
    primesHO a p = firstN a (primesHO a p).length ∧ p ≤ primeSeq a (primesHO a p).length :=
  primesHO_eq_firstN_of_length p _ a rfl

theorem primeSeq_complete (s p : Nat) (hp : p.Prime) (hs : s ≤ p) : ∃ j, primeSeq s j = p := by
  have hm : p ∈ primesHO s (p + 1) := mem_primesHO.2 ⟨hs, Nat.lt_succ_self p, hp⟩
  rw [(primesHO_eq_firstN s (p + 1)).1] at hm
  obtain ⟨j, -, hj⟩ := List.mem_map.1 hm
  exact ⟨j, hj⟩

theorem primeSeq_lt_iff (a p j : Nat) : primeSeq a j < p ↔ j < (primesHO a p).length := by
  obtain ⟨he, hp⟩ := primesHO_eq_firstN a p
  refine ⟨fun h => (primeSeq_strictMono a).lt_iff_lt.1 (Nat.lt_of_lt_of_le h hp), fun hj => ?_⟩
  have : primeSeq a j ∈ primesHO a p := by rw [he]; exact List.mem_map.2 ⟨j, List.mem_range.2 hj, rfl⟩
  exact (mem_primesHO.1 this).2.1

theorem primeSeq_le_iff (a b j : Nat) : primeSeq a j ≤ b ↔ j < (primesIn a b).length :=
  Nat.lt_succ_iff.symm.trans (primeSeq_lt_iff a (b + 1) j)

theorem nextPrime_eq_primeSeq {a x c : Nat} (hax : a ≤ x) (hlo : ∀ j, j < c → primeSeq a j < x)
    (hhi : x ≤ primeSeq a c) : nextPrime x = primeSeq a c :=
  nextPrime_eq_of hhi (primeSeq_prime a c) fun q h1 h2 hq => by
    obtain ⟨j, rfl⟩ := primeSeq_complete a q hq (Nat.le_trans hax h1)
    exact absurd (hlo j ((primeSeq_strictMono a).lt_iff_lt.1 h2)) (Nat.not_lt.2 h1)

theorem prevPrime_eq_primeSeq {a x c : Nat} (hlo : primeSeq a c ≤ x) (hhi : x < primeSeq a (c + 1)) :
    prevPrime x = primeSeq a c :=
  prevPrime_eq_of hlo (primeSeq_prime a c) fun _ h1 h2 hq =>
    absurd (Nat.lt_of_le_of_lt h2 hhi) (Nat.not_lt.2 (nextPrime_min (n := primeSeq a c + 1) h1 hq))

theorem primeSeq_after (a b : Nat) (hab : a ≤ b + 1) :
    ∀ i, primeSeq (b + 1) i = primeSeq a ((primesIn a b).length + i)
  | 0 => nextPrime_eq_primeSeq hab (fun j hj => (primeSeq_lt_iff a (b + 1) j).2 hj) (primesHO_eq_firstN a (b + 1)).2
  | i + 1 => congrArg (fun x => nextPrime (x + 1)) (primeSeq_after a b hab i)

/-- walking down from b visits the primes of [a, b] in reverse order: step i meets the prime of index d
    when i + d + 1 is their number -/
theorem prevSeq_before (a b : Nat) : ∀ i d, i + d + 1 = (primesIn a b).length → prevSeq b i = primeSeq a d
  | 0, d, h => by
    have hb : b + 1 ≤ primeSeq a (primesIn a b).length := (primesHO_eq_firstN a (b + 1)).2
    rw [← h, Nat.zero_add] at hb
    exact prevPrime_eq_primeSeq ((primeSeq_le_iff a b d).2 (by omega)) (Nat.lt_of_succ_le hb)
  | i + 1, d, h => by
    show prevPrime (prevSeq b i - 1) = _
    rw [prevSeq_before a b i (d + 1) (by omega)]
    have := primeSeq_lt_succ a d
    have := (primeSeq_prime a (d + 1)).pos
    exact prevPrime_eq_primeSeq (by omega) (by omega)

theorem prevSeq_complete (t p : Nat) (hp : p.Prime) (hs : p ≤ t) : ∃ j, prevSeq t j = p := by
  obtain ⟨d, rfl⟩ := primeSeq_complete 0 p hp (Nat.zero_le p)
  have hd := (primeSeq_le_iff 0 t d).1 hs
  exact ⟨(primesIn 0 t).length - d - 1, prevSeq_before 0 t _ d (by omega)⟩

theorem prevSeq_after (a b : Nat) (hab : a ≤ b + 1) :
    ∀ i, prevSeq b ((primesIn a b).length + i) = prevSeq (a - 1) i
  | 0 => by
    cases hc : (primesIn a b).length with
    | zero =>
      refine prevPrime_eq_prevPrime (by omega) fun q h1 h2 => ?_
      exact primesHO_eq_nil_iff.1 (List.eq_nil_of_length_eq_zero hc) q (by omega) (by omega)
    | succ c =>
      show prevPrime (prevSeq b c - 1) = _
      rw [prevSeq_before a b c 0 (by omega)]
      exact prevPrime_nextPrime_pred a
  | i + 1 => congrArg (fun x => prevPrime (x - 1)) (prevSeq_after a b hab i)

end Ps
