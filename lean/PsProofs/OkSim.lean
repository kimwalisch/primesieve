/-
  PsProofs.OkSim — one relation for reasoning about `Except` programs that succeed:
  `OkSim Q a b` says that `b` succeeds wherever `a` does, with the same result, and that the result
  satisfies `Q`.  Taken on the diagonal (`b := a`) it is the postcondition "`a = .ok r → Q r`".
  It is closed under the ways the models are built (`ok`, `error`, `>>=`, `if`), so a simulation
  between two instances of a program, or an invariant of one, follows the program text.
-/
namespace Ps

def OkSim {ε ε' α : Type} (Q : α → Prop) (a : Except ε α) (b : Except ε' α) : Prop :=
  ∀ r, a = .ok r → b = .ok r ∧ Q r

abbrev OkPost {ε α : Type} (Q : α → Prop) (a : Except ε α) : Prop := OkSim Q a a

namespace OkSim
variable {ε ε' α β : Type} {Q : α → Prop} {Q' : β → Prop}

theorem ok {r : α} (h : Q r) : OkSim Q (.ok r : Except ε α) (.ok r : Except ε' α) :=
  fun _ e => ⟨by cases e; rfl, by cases e; exact h⟩

theorem ok_of_eq {r r' : α} (e : r = r') (h : Q r) :
    OkSim Q (.ok r : Except ε α) (.ok r' : Except ε' α) := e ▸ ok h

/-- the same computation on both sides: nothing is learnt about the result -/
theorem refl (a : Except ε α) : OkPost (fun _ => True) a := fun _ h => ⟨h, trivial⟩

theorem error {e : ε} {b : Except ε' α} : OkSim Q (.error e) b :=
  fun _ h => nomatch h

theorem bind {a : Except ε α} {b : Except ε' α} {f : α → Except ε β} {g : α → Except ε' β}
    (h : OkSim Q a b) (hf : ∀ x, Q x → OkSim Q' (f x) (g x)) : OkSim Q' (a >>= f) (b >>= g) := by
  intro r hr
  cases a with
  | error e => cases hr
  | ok x => obtain ⟨hb, hx⟩ := h x rfl; subst hb; exact hf x hx r hr

theorem ite {c : Prop} [Decidable c] {a a' : Except ε α} {b b' : Except ε' α}
    (ht : c → OkSim Q a b) (he : ¬c → OkSim Q a' b') :
    OkSim Q (if c then a else a') (if c then b else b') := by
  by_cases hc : c
  · rw [if_pos hc, if_pos hc]; exact ht hc
  · rw [if_neg hc, if_neg hc]; exact he hc

theorem ite_left {c : Prop} [Decidable c] {a a' : Except ε α} {b : Except ε' α}
    (ht : c → OkSim Q a b) (he : ¬c → OkSim Q a' b) : OkSim Q (if c then a else a') b := by
  by_cases hc : c
  · rw [if_pos hc]; exact ht hc
  · rw [if_neg hc]; exact he hc

theorem mono {Q₂ : α → Prop} {a : Except ε α} {b : Except ε' α} (h : OkSim Q a b)
    (hq : ∀ r, Q r → Q₂ r) : OkSim Q₂ a b :=
  fun r hr => ⟨(h r hr).1, hq r (h r hr).2⟩

/-- to bind over `a` alone while keeping `b = .ok r` -/
theorem toPost {a : Except ε α} {b : Except ε' α} (h : OkSim Q a b) :
    OkPost (fun r => b = .ok r ∧ Q r) a :=
  fun r hr => ⟨hr, h r hr⟩

end OkSim
end Ps
