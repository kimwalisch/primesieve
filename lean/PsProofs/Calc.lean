/-
  PsProofs.Calc — the checked arithmetic of calculator.hpp computes the exact integer result or
  reports overflow; the bounded parser refines the same parser over unbounded integers.
-/
import PsModel.Calculator
import PsProofs.OkSim

namespace Ps.Calc

/-! ### every checked operation is `if test then overflow else exact`, and its test is exact:
    it fires iff the exact result does not fit `t` -/

theorem overflow_iff {t : Ty} {z : Int} {c : Prop} [Decidable c] (h : c ↔ ¬ t.InR z) :
    (if c then .error .overflow else .ok z : Except CErr Int) =
      if t.InR z then .ok z else .error .overflow := by
  by_cases hc : c
  · rw [if_pos hc, if_neg (h.mp hc)]
  · rw [if_neg hc, if_pos (Decidable.not_not.mp (mt h.mpr hc))]

theorem checkedAdd_spec (t : Ty) (x y : Int) (hx : t.InR x) :
    checkedAdd t x y = if t.InR (x + y) then .ok (x + y) else .error .overflow :=
  overflow_iff (by unfold Ty.InR at *; split <;> omega)

theorem checkedSub_spec (t : Ty) (x y : Int) (hx : t.InR x) :
    checkedSub t x y = if t.InR (x - y) then .ok (x - y) else .error .overflow :=
  overflow_iff (by unfold Ty.InR at *; split <;> omega)

/-- truncated division of a non-negative by a positive number is floor division … -/
theorem tdiv_lt_iff {a b c : Int} (ha : 0 ≤ a) (hb : 0 < b) : a.tdiv b < c ↔ a < c * b := by
  rw [Int.tdiv_eq_ediv_of_nonneg ha]; exact Int.ediv_lt_iff_lt_mul hb
/-- … and of a non-positive number it is ceiling division -/
theorem lt_tdiv_iff {a b c : Int} (ha : a ≤ 0) (hb : 0 < b) : c < a.tdiv b ↔ c * b < a := by
  have := tdiv_lt_iff (c := -c) (Int.neg_nonneg_of_nonpos ha) hb
  rw [Int.neg_tdiv, Int.neg_mul] at this
  omega

theorem checkedMul_spec (t : Ty) (hmin : t.min ≤ 0) (hmax : 0 ≤ t.max) (x y : Int) :
    checkedMul t x y = if t.InR (x * y) then .ok (x * y) else .error .overflow := by
  unfold checkedMul
  by_cases h0 : x = 0 ∨ y = 0
  · rw [if_pos h0, Int.mul_eq_zero.mpr h0, if_pos ⟨hmin, hmax⟩]
  · rw [if_neg h0]
    refine overflow_iff ?_
    unfold Ty.InR
    -- in each sign case the quotient test says on which side of `min` / `max` the product lies
    rcases Int.lt_or_gt_of_ne (mt Or.inl h0) with hx | hx <;>
      rcases Int.lt_or_gt_of_ne (mt Or.inr h0) with hy | hy
    · have hp := Int.mul_pos_of_neg_of_neg hx hy
      have key := tdiv_lt_iff (c := -x) hmax (Int.neg_pos_of_neg hy)
      rw [Int.tdiv_neg, Int.neg_mul_neg] at key
      rw [if_neg (by omega), if_neg (by omega)]; omega
    · have hp := Int.mul_neg_of_neg_of_pos hx hy
      have key := lt_tdiv_iff (c := x) hmin hy
      rw [if_neg (by omega), if_pos hy]; omega
    · have hp := Int.mul_neg_of_pos_of_neg hx hy
      have key := lt_tdiv_iff (c := y) hmin hx
      rw [Int.mul_comm] at key
      rw [if_pos hx, if_neg (by omega)]; omega
    · have hp := Int.mul_pos hx hy
      have key := tdiv_lt_iff (c := x) hmax hy
      rw [if_pos hx, if_pos hy]; omega

/-- unsigned multiplication: exact product or overflow -/
theorem checkedMul_spec_unsigned (t : Ty) (ht : t.min = 0) (hm : 0 ≤ t.max) (x y : Int) (hx : t.InR x) (hy : t.InR y) :
    checkedMul t x y = if t.InR (x * y) then .ok (x * y) else .error .overflow :=
  checkedMul_spec t (Int.le_of_eq ht) hm x y

theorem okSim_of_spec {t : Ty} {z : Int} {a : Except CErr Int}
    (h : a = if t.InR z then .ok z else .error .overflow) : OkSim t.InR a (.ok z : Except CErr Int) :=
  h ▸ .ite_left .ok fun _ => .error

theorem toU_lt (t : Ty) (z : Int) : toU t z < 2 ^ t.bits := by
  have hp : (0 : Int) < 2 ^ t.bits := Int.pow_pos (by decide)
  exact (Int.toNat_lt (Int.emod_nonneg _ (Int.ne_of_gt hp))).mpr
    (by rw [Int.natCast_pow]; exact Int.emod_lt_of_pos _ hp)

/-! ### refinement between two arithmetics -/

/-- `B` simulates `A` on values satisfying `P` (and `P` is preserved) -/
structure Sim (A B : Arith) (P : Int → Prop) : Prop where
  add : ∀ {x y}, P x → P y → OkSim P (A.add x y) (B.add x y)
  sub : ∀ {x y}, P x → P y → OkSim P (A.sub x y) (B.sub x y)
  mul : ∀ {x y}, P x → P y → OkSim P (A.mul x y) (B.mul x y)
  div : ∀ {x y}, P x → P y → OkSim P (A.div x y) (B.div x y)
  mod : ∀ {x y}, P x → P y → OkSim P (A.mod x y) (B.mod x y)
  shl : ∀ {x y}, P x → P y → OkSim P (A.shl x y) (B.shl x y)
  shr : ∀ {x y}, P x → P y → OkSim P (A.shr x y) (B.shr x y)
  compl : ∀ {x}, P x → A.compl x = B.compl x ∧ P (A.compl x)
  lor : ∀ {x y}, P x → P y → A.lor x y = B.lor x y ∧ P (A.lor x y)
  land : ∀ {x y}, P x → P y → A.land x y = B.land x y ∧ P (A.land x y)
  /-- the constants the parser itself feeds in: 0, 1, 10, digits and bases ≤ 16 -/
  small : ∀ n : Nat, n ≤ 16 → P n

variable {A B : Arith} {P : Int → Prop}

theorem powLoop_sim (S : Sim A B P) : ∀ fuel {x n res}, P x → P res →
    OkSim P (powLoop A fuel x n res) (powLoop B fuel x n res)
  | 0, _, _, _, _, hr => .ok hr
  | fuel + 1, _, _, _, hx, hr => by
    unfold powLoop
    exact .ite
      (fun _ => .bind (.ite (fun _ => S.mul hr hx) fun _ => .ok hr) fun _ hr' =>
        .bind (.ite (fun _ => S.mul hx hx) fun _ => .ok hx) fun _ hx' => powLoop_sim S fuel hx' hr')
      fun _ => .ok hr

theorem pow_sim (S : Sim A B P) {x : Int} (n : Int) (hx : P x) : OkSim P (pow A x n) (pow B x n) :=
  powLoop_sim S _ hx (S.small 1 (by omega))

theorem calculate_sim (S : Sim A B P) {v1 v2 : Int} (h1 : P v1) (h2 : P v2) (o : Op) :
    OkSim P (calculate A v1 v2 o) (calculate B v1 v2 o) := by
  cases o <;> unfold calculate
  case null => exact .ok (S.small 0 (by omega))
  case bor => exact .ok_of_eq (S.lor h1 h2).1 (S.lor h1 h2).2
  case band => exact .ok_of_eq (S.land h1 h2).1 (S.land h1 h2).2
  case shl => exact S.shl h1 h2
  case shr => exact S.shr h1 h2
  case add => exact S.add h1 h2
  case sub => exact S.sub h1 h2
  case mul => exact S.mul h1 h2
  case div => exact .ite (fun _ => .error) fun _ => S.div h1 h2
  case mod => exact .ite (fun _ => .error) fun _ => S.mod h1 h2
  case pow => exact pow_sim S _ h1
  case exp => exact .bind (pow_sim S _ (S.small 10 (by omega))) fun _ hp => S.mul h1 hp

theorem digitLoop_sim (S : Sim A B P) (s : Str) {base : Nat} (hb : base ≤ 16) : ∀ fuel i {v}, P v →
    OkSim (fun r => P r.1) (digitLoop A s base fuel i v) (digitLoop B s base fuel i v)
  | 0, _, _, hv => .ok hv
  | fuel + 1, i, _, hv => by
    unfold digitLoop
    exact .ite
      (fun hd => .bind (S.mul hv (S.small base hb)) fun _ hm =>
        .bind (S.add hm (S.small _ (Nat.le_trans (Nat.le_of_lt hd) hb))) fun _ hv' =>
          digitLoop_sim S s hb fuel (i + 1) hv')
      fun _ => .ok hv

theorem reduce_sim (S : Sim A B P) (op : Operator) : ∀ (stack : List (Operator × Int)) {v},
    (∀ e ∈ stack, P e.2) → P v →
    OkSim (fun r => (∀ e ∈ r.1, P e.2) ∧ P r.2.1) (reduce A op stack v) (reduce B op stack v)
  | [], _, hs, hv => .ok ⟨hs, hv⟩
  | (top, tv) :: rest, _, hs, hv => by
    have hr := fun e he => hs e (List.mem_cons_of_mem _ he)
    unfold reduce
    exact .ite
      (fun _ => .ite (fun _ => .ok ⟨hr, hv⟩) fun _ =>
        .bind (calculate_sim S (hs _ List.mem_cons_self) hv top.op) fun _ hv' => reduce_sim S op rest hr hv')
      fun _ => .ok ⟨hs, hv⟩

/-- the three mutually recursive parser functions, simultaneously, by induction on the fuel -/
theorem parse_sim (S : Sim A B P) (s : Str) : ∀ fuel,
    (∀ i, OkSim (fun r => P r.1) (parseValue A s fuel i) (parseValue B s fuel i)) ∧
    (∀ i, OkSim (fun r => P r.1) (parseExpr A s fuel i) (parseExpr B s fuel i)) ∧
    (∀ stack v i, (∀ e ∈ stack, P e.2) → P v →
      OkSim (fun r => P r.1) (exprLoop A s fuel stack v i) (exprLoop B s fuel stack v i))
  | 0 => ⟨fun _ => by unfold parseValue; exact .error, fun _ => by unfold parseExpr; exact .error,
      fun _ _ _ _ _ => by unfold exprLoop; exact .error⟩
  | fuel + 1 => by
    obtain ⟨ihV, ihE, ihL⟩ := parse_sim S s fuel
    have h0 : P 0 := S.small 0 (Nat.zero_le _)
    have dec := fun i => digitLoop_sim S s (base := 10) (by omega) s.size i h0
    refine ⟨fun i0 => ?_, fun i => ?_, fun stack v i hs hv => ?_⟩
    · unfold parseValue
      -- one case per leading character, in the order of the model's `if` chain
      refine .ite (fun _ => .ite (fun _ => ?hex) fun _ => dec _) fun _ => .ite (fun _ => dec _) fun _ =>
        .ite (fun _ => ?paren) fun _ => .ite (fun _ => ?compl) fun _ => .ite (fun _ => ihV _) fun _ =>
        .ite (fun _ => ?minus) fun _ => .error
      case hex => exact digitLoop_sim S s (by omega) _ _ h0
      case paren => exact .bind (ihE _) fun (_, _) hv => .ite (fun _ => .error) fun _ => .ok hv
      case compl => exact .bind (ihV _) fun (_, _) hv => .ok_of_eq (by rw [(S.compl hv).1]) (S.compl hv).2
      case minus => exact .bind (ihV _) fun (_, _) hv => .bind (S.sub h0 hv) fun _ hv' => .ok hv'
    · unfold parseExpr
      exact .bind (ihV _) fun (_, _) hv => ihL _ _ _ (by simpa using h0) hv
    · unfold exprLoop
      -- `parseOp` does not depend on the arithmetic: the same computation on both sides
      exact .bind (.refl _) fun (_, _) _ => .bind (reduce_sim S _ stack hs hv) fun (_, _, _) hr =>
        .ite (fun _ => .ok hr.2) fun _ => .bind (ihV _) fun (_, _) hv2 =>
          ihL _ _ _ (List.forall_mem_cons.mpr ⟨hr.2, hr.1⟩) hv2

theorem eval_sim (S : Sim A B P) (str : String) : OkSim P (eval A str) (eval B str) := by
  unfold eval
  exact .bind ((parse_sim S _ _).2.1 _) fun (_, _) hv => .ite (fun _ => .ok hv) fun _ => .error

/-! ### the instance: uint64_t arithmetic refines exact integer arithmetic -/

theorem u64_InR (z : Int) : u64.InR z ↔ 0 ≤ z ∧ z ≤ 18446744073709551615 := Iff.rfl

theorem u64_min : u64.min = 0 := rfl

/-- at uint64_t a bit pattern is its own value -/
theorem u64_ofU {n : Nat} (h : n < 2 ^ u64.bits) : u64.InR (ofU u64 n) := by
  have : ¬ (u64.min < 0 ∧ n ≥ 2 ^ (u64.bits - 1)) := fun h => absurd h.1 (by decide)
  rw [show u64.bits = 64 from rfl] at h
  rw [ofU, if_neg this, u64_InR]
  omega

theorem two_pow_pos (n : Nat) : (0 : Int) < 2 ^ n := Int.pow_pos (by decide)

theorem shiftRight_eq (x : Int) (n : Nat) : x >>> n = x / 2 ^ n := by
  rw [Int.shiftRight_eq_div_pow, Int.natCast_pow]; rfl

theorem tmod_le_self {a b : Int} (ha : 0 ≤ a) (hb : 0 ≤ b) : a.tmod b ≤ a :=
  Int.tmod_def a b ▸ Int.sub_le_self a (Int.mul_nonneg hb (Int.tdiv_nonneg ha hb))

theorem sim_u64 : Sim (Arith.ofTy u64) (Arith.exact u64) u64.InR where
  add := fun hx _ => okSim_of_spec (checkedAdd_spec u64 _ _ hx)
  sub := fun hx _ => okSim_of_spec (checkedSub_spec u64 _ _ hx)
  mul := fun _ _ => okSim_of_spec (checkedMul_spec u64 (by decide) (by decide) _ _)
  -- `/`, `%`: the tests of checkedDiv / checkedMod need a negative divisor; the result lies between 0 and `x`
  div := fun {x y} hx hy => .ite_left (fun h => absurd hy.1 (Int.not_le.mpr h.1)) fun _ =>
    .ok ⟨Int.tdiv_nonneg hx.1 hy.1, Int.le_trans (Int.tdiv_le_self y hx.1) hx.2⟩
  mod := fun {x y} hx hy => .ite_left (fun h => absurd hy.1 (Int.not_le.mpr h.1)) fun _ =>
    .ok ⟨Int.tmod_nonneg y hx.1, Int.le_trans (tmod_le_self hx.1 hy.1) hx.2⟩
  -- `>>`, `<<`: the middle test of `checkedShift` is `!left`, fixed by the field
  shr := fun {x n} hx _ => .ite (fun _ => .error) fun _ => .ite_left (fun _ => by
      rw [shiftRight_eq]
      exact .ok ⟨Int.ediv_nonneg hx.1 (Int.le_of_lt (two_pow_pos _)), Int.le_trans (Int.ediv_le_self _ hx.1) hx.2⟩)
    fun h => absurd rfl h
  shl := fun {x n} _ _ => .ite (fun _ => .error) fun _ => .ite_left (fun h => nomatch h) fun _ =>
    .ite_left (fun _ => .error) fun hc => by
      -- the test that did not fire says `0 ≤ x` and `x * 2 ^ n ≤ max`
      rw [shiftRight_eq, not_or, Int.not_lt, gt_iff_lt, Int.not_lt, Int.le_ediv_iff_mul_le (two_pow_pos _)] at hc
      rw [Int.shiftLeft_eq]
      exact .ok ⟨Int.mul_nonneg hc.1 (Int.le_of_lt (two_pow_pos _)), hc.2⟩
  compl := fun {x} hx => ⟨rfl, by
    show u64.InR (if u64.min < 0 then -x - 1 else u64.max - x)
    rw [if_neg (by decide)]
    exact ⟨Int.sub_nonneg_of_le hx.2, Int.sub_le_self _ hx.1⟩⟩
  lor := fun _ _ => ⟨rfl, u64_ofU (Nat.or_lt_two_pow (toU_lt ..) (toU_lt ..))⟩
  land := fun _ _ => ⟨rfl, u64_ofU (Nat.and_lt_two_pow _ (toU_lt ..))⟩
  small := fun n hn => (u64_InR _).mpr (by omega)

end Ps.Calc
