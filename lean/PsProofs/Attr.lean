import Lean.Meta.Tactic.Simp.RegisterCommand
import Lean.Meta.Tactic.Simp.BuiltinSimprocs.String

/-- the rewriting steps that decide `E <+ L` for closed lists of pairs of strings -/
register_simp_attr sublist_step
