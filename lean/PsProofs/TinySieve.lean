/-
  PsProofs.TinySieve — the innermost level of the sieving-prime recursion (SievingPrimes.cpp; PsModel.Feed.tinySieve, tinyFeed):
  the invariant of tinySieve()'s outer loop with its initialisation, step and exit (`OInv_init`, `OInv_step`, `sifted_iff_prime`;
  put together in `C01_tiny_sieve`), and sieveSegment()'s loop over that table in closed form (`tinyFeed_eq`).
-/
import Mathlib.Data.Nat.Sqrt
import PsModel.Feed
import PsProofs.Loop
import PsProofs.SievePrinciple
namespace Ps.Feed

theorem getD_set_false (t : List Bool) (j k : Nat) :
    (t.set j false).getD k false = true ↔ k ≠ j ∧ t.getD k false = true := by
  simp only [List.getD_eq_getElem?_getD, List.getElem?_set]
  by_cases h : j = k
  · subst h; by_cases hl : j < t.length <;> simp [hl]
  · simp [h, Ne.symm h]

/-- the inner loop clears exactly the entries j, j + d, j + 2d, … ≤ n (d = 2i) -/
theorem tinyInner_spec (n i : Nat) (hi : 1 ≤ i) (fuel j : Nat) (t : List Bool) (hf : n + 1 - j ≤ fuel) :
    (tinyInner n i fuel j t).length = t.length ∧
    ∀ k, k ≤ n → ((tinyInner n i fuel j t).getD k false = true ↔
      t.getD k false = true ∧ ∀ m, k ≠ j + 2 * i * m) := by
  have key := fuelLoop_rule₂ (F := tinyInner n i) (fun _ _ _ => rfl) (fun _ _ => rfl)
    (fun j' u => ∃ c, j' = j + 2 * i * c ∧ u.length = t.length ∧
      ∀ k, u.getD k false = true ↔ t.getD k false = true ∧ ∀ m < c, k ≠ j + 2 * i * m)
    (fun j' _ => n + 1 - j') ?step fuel j t ⟨0, rfl, rfl, fun k => by simp⟩ hf
  case step =>
    rintro j' u ⟨c, h1, h2, h3⟩ hc
    refine ⟨⟨c + 1, by rw [Nat.mul_succ]; omega, by rw [List.length_set, h2], fun k => ?_⟩, by omega⟩
    rw [getD_set_false, h3 k, Nat.forall_lt_succ_right, h1]
    exact ⟨fun ⟨a, b, c⟩ => ⟨b, c, a⟩, fun ⟨b, c, a⟩ => ⟨a, b, c⟩⟩
  obtain ⟨j', u, ⟨c, h1, h2, h3⟩, hc, he⟩ := key
  rw [he]
  refine ⟨h2, fun k hk => ?_⟩
  rw [h3 k]
  refine and_congr_right fun _ => ⟨fun h m e => ?_, fun h m _ => h m⟩
  -- an entry j + d·m with m ≥ c lies beyond n
  have : 2 * i * c ≤ 2 * i * m := Nat.mul_le_mul_left _ (Nat.le_of_not_lt fun hlt => h m hlt e)
  omega

/-- for odd p, k: the entries the inner loop of p clears (p², p² + 2p, …) are the odd multiples p·c with c ≥ p -/
theorem odd_cross (p k : Nat) (hp : p % 2 = 1) (hk : k % 2 = 1) :
    (∃ m, k = p * p + 2 * p * m) ↔ (p * p ≤ k ∧ p ∣ k) := by
  have e (m : Nat) : p * p + 2 * p * m = p * (p + 2 * m) := by rw [Nat.mul_add, Nat.mul_left_comm, Nat.mul_assoc]
  constructor
  · rintro ⟨m, rfl⟩
    exact ⟨Nat.le_add_right _ _, p + 2 * m, e m⟩
  · rintro ⟨a, ⟨c, rfl⟩⟩
    -- c is odd and at least p, so c = p + 2m
    have hc : c % 2 = 1 := by
      have := Nat.mul_mod p c 2
      rw [hp] at this; omega
    have hpc : p ≤ c := Nat.le_of_mul_le_mul_left a (by omega)
    exact ⟨(c - p) / 2, by rw [e]; congr 1; omega⟩

def Sifted (i k : Nat) : Prop := ∀ p, p.Prime → 3 ≤ p → p < i → p * p ≤ k → ¬ p ∣ k

/-- the odd primes below i + 2 are those below i and, if it is prime, i -/
theorem sifted_add_two (i k : Nat) (hi : i % 2 = 1) (h3 : 3 ≤ i) :
    Sifted (i + 2) k ↔ Sifted i k ∧ (i.Prime → ¬ (i * i ≤ k ∧ i ∣ k)) := by
  constructor
  · exact fun h => ⟨fun p hp h3p hpi => h p hp h3p (by omega), fun hip ⟨a, b⟩ => h i hip h3 (by omega) a b⟩
  · intro ⟨h, hi'⟩ p hp h3p hpi hpp hd
    have hpodd := hp.mod_two_eq_one_iff_ne_two.mpr (by omega)
    by_cases hlt : p < i
    · exact h p hp h3p hlt hpp hd
    · obtain rfl : p = i := by omega
      exact hi' hp ⟨hpp, hd⟩

theorem sifted_iff_prime (i k : Nat) (hk : k % 2 = 1) (h3 : 3 ≤ k) (hik : k < i * i) : Sifted i k ↔ k.Prime := by
  rw [prime_iff_trial_division (by omega)]
  refine ⟨fun h p hp hpp hd => ?_, fun h p hp _ _ hpp => h p hp hpp⟩
  -- p is not 2 because k is odd, and p < i because p² ≤ k < i²
  have h2 : p ≠ 2 := by rintro rfl; omega
  have := hp.two_le
  refine h p hp (by omega) ?_ hpp hd
  by_contra hge
  have : i * i ≤ p * p := Nat.mul_le_mul (by omega) (by omega)
  omega

/-- invariant of tinySieve()'s outer loop at its (odd) index i: entry k (odd, 3 ≤ k ≤ n) is still true iff no odd prime
    p < i with p² ≤ k divides k -/
def OInv (n i : Nat) (t : List Bool) : Prop :=
  i % 2 = 1 ∧ 3 ≤ i ∧ t.length = n + 1 ∧ ∀ k, 3 ≤ k → k ≤ n → k % 2 = 1 → (t.getD k false = true ↔ Sifted i k)

theorem OInv_init (n : Nat) : OInv n 3 (List.replicate (n + 1) true) :=
  ⟨rfl, Nat.le_refl 3, List.length_replicate, fun k _ hkn _ => iff_of_true
    (by simp [List.getD_eq_getElem?_getD, Nat.lt_succ_of_le hkn]) fun p _ h3p hp3 => by omega⟩

theorem OInv_step (n i : Nat) (t : List Bool) (h : OInv n i t) (hin : i * i ≤ n) :
    OInv n (i + 2) (if t.getD i false then tinyInner n i (n + 1) (i * i) t else t) := by
  obtain ⟨hi, h3, hlen, hinv⟩ := h
  have hflag : t.getD i false = true ↔ i.Prime := by
    rw [hinv i h3 (Nat.le_trans (Nat.le_mul_self i) hin) hi]
    exact sifted_iff_prime i i hi h3 (by have : 2 * i ≤ i * i := Nat.mul_le_mul_right i (by omega); omega)
  obtain ⟨h1, h2⟩ := tinyInner_spec n i (by omega) (n + 1) (i * i) t (by omega)
  refine ⟨(Nat.add_mod_right i 2).trans hi, Nat.le_add_right_of_le h3, ?_, fun k hk3 hkn hk => ?_⟩
  · split
    · rw [h1, hlen]
    · exact hlen
  · rw [sifted_add_two i k hi h3, ← hinv k hk3 hkn hk, ← odd_cross i k hi hk]
    by_cases hf : t.getD i false = true
    · rw [if_pos hf, h2 k hkn]
      exact and_congr_right fun _ => ⟨fun h _ ⟨m, e⟩ => h m e, fun h m e => h (hflag.mp hf) ⟨m, e⟩⟩
    · rw [if_neg hf]
      exact ⟨fun h => ⟨h, fun hip => absurd (hflag.mpr hip) hf⟩, fun h => h.1⟩

/-- SievingPrimes::sieveSegment(), the tiny loop, in closed form: with s = isqrt(high) it runs k = ⌊(s + 2 − tinyIdx_)/2⌋ times,
    visits tinyIdx_, tinyIdx_ + 2, … and keeps, in this order, those whose flag is set -/
theorem tinyFeed_eq (tiny : Nat → Bool) (high tinyIdx : Nat) :
    tinyFeed tiny high tinyIdx = (tinyIdx + 2 * ((Nat.sqrt high + 2 - tinyIdx) / 2),
      (List.range' tinyIdx ((Nat.sqrt high + 2 - tinyIdx) / 2) 2).filter tiny) := by
  have key := fuelLoop_rule₂ (F := tinyLoop tiny high) (fun _ _ _ => rfl) (fun _ _ => rfl)
    (fun i acc => ∃ m, m ≤ (Nat.sqrt high + 2 - tinyIdx) / 2 ∧ i = tinyIdx + 2 * m ∧
      acc = (List.range' tinyIdx m 2).filter tiny)
    (fun i _ => Nat.sqrt high + 1 - i) ?step (Nat.sqrt high + 2) tinyIdx [] ⟨0, Nat.zero_le _, rfl, rfl⟩ (by omega)
  case step =>
    rintro i acc ⟨m, h1, rfl, rfl⟩ hc
    have hi := Nat.le_sqrt.mpr hc
    refine ⟨⟨m + 1, by omega, by omega, ?_⟩, by omega⟩
    rw [List.range'_concat, List.filter_append]
    by_cases ht : tiny (tinyIdx + 2 * m) = true <;> simp [ht]
  obtain ⟨i, acc, ⟨m, h1, rfl, rfl⟩, hc, he⟩ := key
  have hs := Nat.sqrt_lt.mpr (Nat.lt_of_not_le hc)
  obtain rfl : m = (Nat.sqrt high + 2 - tinyIdx) / 2 := by omega
  rw [tinyFeed, he]

end Ps.Feed
