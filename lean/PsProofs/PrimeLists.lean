/-
  PsProofs.PrimeLists — the sequence 0, 2, 3, 5, … seen through `nextPrime` / `prevPrime`, and the
  lists of consecutive elements of it ("runs") that the prime generator hands to the iterator.
  An element of the sequence is an `x` with `prevPrime x = x` (0 or a prime); the run from `x` up to
  `p` (exclusive) is `x :: primesHO (x + 1) p`.  Forward blocks and backward blocks are both runs.
-/
import PsSpec.Primes

namespace Ps.Spec

/-- adjacent elements of a prime buffer: `y` is the prime after `x`, `x` the element
    before `y` (0 counts as the element before 2) -/
def Link (x y : Nat) : Prop := y = nextPrime (x + 1) ∧ x = prevPrime (y - 1)

/-- every two neighbours of the buffer are adjacent primes -/
def Consec (l : List Nat) : Prop :=
  ∀ j, j + 1 < l.length → Link (l.getD j 0) (l.getD (j + 1) 0)

theorem link_prevPrime (n : Nat) : Link (prevPrime n) (nextPrime (n + 1)) :=
  ⟨(nextPrime_prevPrime_succ n).symm, (prevPrime_nextPrime_pred (n + 1)).symm⟩

theorem primesHO_eq_cons (a p : Nat) :
    primesHO a p = if nextPrime a < p then nextPrime a :: primesHO (nextPrime a + 1) p else [] := by
  have hgap : ∀ q, a ≤ q → q < nextPrime a → ¬ q.Prime := fun _ => no_prime_lt_nextPrime
  split
  · rename_i h
    rw [← primesHO_append (le_nextPrime a) (Nat.le_of_lt h), primesHO_eq_nil_iff.2 hgap,
      primesHO_unfold h, if_pos (nextPrime_prime a), List.nil_append]
  · rename_i h
    exact primesHO_eq_nil_iff.2 fun q h1 h2 => hgap q h1 (by omega)

theorem primesHO_congr {a a' : Nat} (h : nextPrime a = nextPrime a') (p : Nat) :
    primesHO a p = primesHO a' p := by
  rw [primesHO_eq_cons a, primesHO_eq_cons a', h]

theorem primesHO_eq_run {a p : Nat} (h : primesHO a p ≠ []) :
    nextPrime a < p ∧ primesHO a p = nextPrime a :: primesHO (nextPrime a + 1) p := by
  rw [primesHO_eq_cons] at h ⊢
  split
  · exact ⟨‹_›, rfl⟩
  · rw [if_neg ‹_›] at h; exact absurd rfl h

theorem primesHO_head {a p : Nat} (h : primesHO a p ≠ []) :
    (primesHO a p).getD 0 0 = nextPrime a := by
  rw [(primesHO_eq_run h).2]; rfl

theorem getD_mem {l : List Nat} {j : Nat} (h : j < l.length) : l.getD j 0 ∈ l := by
  simp [List.getD, List.getElem?_eq_getElem h]

theorem takeWhile_primesHO (m : Nat) {a p : Nat} (hmp : m + 1 ≤ p) :
    (primesHO a p).takeWhile (· ≤ m) = primesHO a (m + 1) := by
  have hnil : ∀ {l : List Nat}, (∀ x ∈ l, m < x) → l.takeWhile (· ≤ m) = [] := by
    intro l h
    cases l with
    | nil => rfl
    | cons x r => exact List.takeWhile_cons_of_neg (by simpa using h x List.mem_cons_self)
  by_cases ha : a ≤ m + 1
  · rw [← primesHO_append ha hmp, List.takeWhile_append_of_pos fun x hx => by simpa using Nat.le_of_lt_succ (mem_primesHO.1 hx).2.1,
      hnil fun x hx => (mem_primesHO.1 hx).1, List.append_nil]
  · rw [primesHO_nil_of_le (Nat.le_of_not_le ha), hnil fun x hx => by have := (mem_primesHO.1 hx).1; omega]

theorem consec_cons {x y : Nat} {l : List Nat} (hxy : Link x y) (hl : Consec (y :: l)) :
    Consec (x :: y :: l) := by
  intro j hj
  cases j with
  | zero => exact hxy
  | succ j => exact hl j (by simpa using hj)

theorem consec_singleton (x : Nat) : Consec [x] := fun j hj => by simp at hj

theorem consec_tail {x : Nat} {l : List Nat} (h : Consec (x :: l)) : Consec l := by
  intro j hj
  exact h (j + 1) (by simpa using hj)

theorem run_consec_last {x : Nat} (hx : prevPrime x = x) {p : Nat} (hxp : x < p) :
    Consec (x :: primesHO (x + 1) p) ∧
      (x :: primesHO (x + 1) p).getD (primesHO (x + 1) p).length 0 = prevPrime (p - 1) := by
  induction hn : p - x using Nat.strong_induction_on generalizing x with
  | _ n ih =>
    have hle := le_nextPrime (x + 1)
    rw [primesHO_eq_cons]
    split
    · -- the run goes on with y = nextPrime (x + 1)
      rename_i hy
      obtain ⟨hc, hl⟩ := ih _ (by omega) (prevPrime_of_prime (nextPrime_prime (x + 1))) hy rfl
      refine ⟨consec_cons ?_ hc, ?_⟩
      · have := link_prevPrime x; rwa [hx] at this
      · rw [List.length_cons, List.getD_cons_succ]; exact hl
    · -- no prime in (x, p)
      rename_i hy
      refine ⟨consec_singleton x, ?_⟩
      rw [List.length_nil, List.getD_cons_zero, ← hx]
      exact (prevPrime_eq_prevPrime (by omega) fun q h1 h2 =>
        no_prime_lt_nextPrime (n := x + 1) h1 (by omega)).symm

theorem consec_primesHO (a p : Nat) : Consec (primesHO a p) := by
  by_cases h : primesHO a p = []
  · rw [h]; intro j hj; simp at hj
  · obtain ⟨hlt, he⟩ := primesHO_eq_run h
    rw [he]
    exact (run_consec_last (prevPrime_of_prime (nextPrime_prime a)) hlt).1

theorem primesHO_last {a p : Nat} (h : primesHO a p ≠ []) :
    (primesHO a p).getD ((primesHO a p).length - 1) 0 = prevPrime (p - 1) := by
  obtain ⟨hlt, he⟩ := primesHO_eq_run h
  rw [he]
  exact (run_consec_last (prevPrime_of_prime (nextPrime_prime a)) hlt).2

theorem consec_eq_primesHO : ∀ (l : List Nat) (c : Nat), l ≠ [] → Consec l → l.getD 0 0 = nextPrime c →
    l = primesHO c (l.getD (l.length - 1) 0 + 1)
  | [x], c, _, _, hh => by
    obtain rfl : x = nextPrime c := hh
    show _ = primesHO c (nextPrime c + 1)
    rw [primesHO_eq_cons, if_pos (Nat.lt_succ_self _), primesHO_nil_of_le (Nat.le_refl _)]
  | x :: y :: r, c, _, hc, hh => by
    obtain rfl : x = nextPrime c := hh
    have ih := consec_eq_primesHO (y :: r) (nextPrime c + 1) (List.cons_ne_nil _ _)
      (consec_tail hc) (hc 0 (by simp)).1
    show _ = primesHO c ((y :: r).getD ((y :: r).length - 1) 0 + 1)
    have hge : (y :: r).getD ((y :: r).length - 1) 0 ∈
        primesHO (nextPrime c + 1) ((y :: r).getD ((y :: r).length - 1) 0 + 1) := by
      rw [← ih]; exact getD_mem (by simp)
    have hge := (mem_primesHO.1 hge).1
    rw [primesHO_eq_cons, if_pos (by omega), ← ih]

end Ps.Spec
