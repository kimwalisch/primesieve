/-
  PsProofs.SievePrinciple — why crossing off the multiples p·q, q ≥ p, of the primes p up to a square root leaves the
  primes: trial division, and its form for the segmented sieve (pre-sieve for the primes 7..163, wheels 30 / 210).
-/
import Mathlib.Data.Nat.Prime.Basic
namespace Ps

theorem prime_iff_trial_division {n : Nat} (h2 : 2 ≤ n) : n.Prime ↔ ∀ p, p.Prime → p * p ≤ n → ¬ p ∣ n := by
  constructor
  · intro hn p hp hpp hd
    obtain rfl := (Nat.prime_dvd_prime_iff_eq hp hn).mp hd
    have : 2 * p ≤ p * p := Nat.mul_le_mul_right p h2
    omega
  · intro h
    by_contra hn
    exact h n.minFac (Nat.minFac_prime (by omega)) (Nat.pow_two _ ▸ Nat.minFac_sq_le_self (by omega) hn)
      (Nat.minFac_dvd n)

namespace Wheel

/-- n is one of the multiples p·q (q ≥ p, q coprime to the wheel modulus M) that the walk of the
    sieving prime p crosses off -/
def ClearedBy (M p n : Nat) : Prop := ∃ q, p ≤ q ∧ Nat.gcd q M = 1 ∧ n = p * q

/-- the principle behind Erat::sieveSegment: a number n > 163 coprime to 30 (i.e. a number that has a bit in
    the sieve array) with n ≤ H is prime iff (a) no prime from 7 to 163 divides it — the pre-sieve —
    and (b) no sieving prime p in (163, √H] crosses it off, where every sieving prime walks the
    quotients q ≥ p coprime to 30 (EratSmall / EratMedium) or coprime to 210 (EratBig), `M p` being
    the modulus of the algorithm p is routed to -/
theorem sieve_principle (M : Nat → Nat) (hM : ∀ p, M p = 30 ∨ M p = 210) (n H : Nat) (hn : 163 < n) (hnH : n ≤ H)
    (hc : Nat.gcd n 30 = 1) :
    n.Prime ↔ (∀ p, p.Prime → 7 ≤ p → p ≤ 163 → ¬ p ∣ n) ∧
              (∀ p, p.Prime → 163 < p → p * p ≤ H → ¬ ClearedBy (M p) p n) := by
  constructor
  · intro hp
    refine ⟨fun p hpp _ h163 hd => ?_, ?_⟩
    · have := (Nat.prime_dvd_prime_iff_eq hpp hp).mp hd
      omega
    · rintro p hpp _ _ ⟨q, hpq, _, rfl⟩
      exact (prime_iff_trial_division (by omega)).mp hp p hpp (Nat.mul_le_mul_left p hpq) (Nat.dvd_mul_right p q)
  · rintro ⟨hpre, hcross⟩
    refine (prime_iff_trial_division (by omega)).mpr fun p hpp hsq hpd => ?_
    -- p is coprime to 30 because n is, so p ≥ 7
    have hp7 : 7 ≤ p := by
      by_contra hlt
      exact (by decide : ∀ p, p < 7 → 2 ≤ p → Nat.gcd p 30 ≠ 1) p (by omega) hpp.two_le
        (Nat.Coprime.coprime_dvd_left hpd hc)
    by_cases h163 : p ≤ 163
    · exact hpre p hpp hp7 h163 hpd
    · obtain ⟨q, rfl⟩ := hpd
      have hq30 : Nat.gcd q 30 = 1 := Nat.Coprime.coprime_dvd_left (Nat.dvd_mul_left q p) hc
      refine hcross p hpp (by omega) (by omega) ⟨q, Nat.le_of_mul_le_mul_left hsq hpp.pos, ?_, rfl⟩
      rcases hM p with h | h
      · rwa [h]
      · -- 210 = 30 · 7, and 7 ∤ q because 7 ∤ n (the pre-sieve)
        have h7 : ¬ 7 ∣ q := fun h7 => hpre 7 (by decide) (by omega) (by omega) (Dvd.dvd.mul_left h7 p)
        rw [h]
        exact Nat.Coprime.mul_right hq30 ((Nat.Prime.coprime_iff_not_dvd (by decide : Nat.Prime 7)).mpr h7).symm

end Wheel
end Ps
