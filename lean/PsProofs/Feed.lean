/-
  PsProofs.Feed — the sieving-prime feed loops (PsModel.Feed): before a segment is sieved, every value that
  SievingPrimes::next() delivers and that is ≤ isqrt(segmentHigh_) has been handed to addSievingPrime — at
  the start of this or of an earlier segment — and nothing else has.  Composed with the segment grid
  (PsProofs.Segments) and the per-number correctness theorem (PsProofs.SegmentCorrect).
-/
import Mathlib.Data.Nat.Sqrt
import PsModel.Feed
import PsProofs.Loop
import PsProofs.Segments
import PsProofs.SegmentCorrect
namespace Ps.Feed
open Ps Ps.Wheel Ps.PreSieve

/-- what the sequence of SievingPrimes::next() values has to satisfy: positive, non-decreasing, and
    strictly increasing until the end-of-primes sentinel ~0ull -/
structure SrcOk (src : Nat → Nat) : Prop where
  pos : ∀ i, 0 < src i
  mono : ∀ i j, i ≤ j → src i ≤ src j
  strict : ∀ i, src i < umax → src i < src (i + 1)

/-- invariant of the feed state: prime_ is the last value fetched, and the values added so far are
    exactly the ones fetched before it, in order -/
def FInv (src : Nat → Nat) (s : St) : Prop :=
  ∃ k, s.fetched = k + 1 ∧ s.prime = src k ∧ (s.added.map Prod.fst).reverse = (List.range k).map src

theorem loop_spec (src : Nat → Nat) (h : SrcOk src) (low B : Nat) (hB : B < umax) (fuel : Nat) (s : St)
    (hs : FInv src s) (hf : B + 1 - s.prime ≤ fuel) :
    FInv src (loop src low B fuel s) ∧ B < (loop src low B fuel s).prime ∧
    ∃ extra, (loop src low B fuel s).added = extra ++ s.added ∧
      ∀ x ∈ extra, x.2 = low ∧ x.1 ≤ B ∧ ∃ i, x.1 = src i := by
  have key := fuelLoop_rule (F := loop src low B) (fun _ _ => rfl) (fun _ => rfl)
    (fun t => FInv src t ∧ ∃ extra, t.added = extra ++ s.added ∧ ∀ x ∈ extra, x.2 = low ∧ x.1 ≤ B ∧ ∃ i, x.1 = src i)
    (fun t => B + 1 - t.prime) ?step fuel s ⟨hs, [], rfl, by simp⟩ hf
  case step =>
    rintro t ⟨⟨k, hk1, hk2, hk3⟩, extra, hex, hall⟩ hle
    have hst := h.strict k (by omega)
    refine ⟨⟨⟨k + 1, by simp [hk1], by simp [hk1], ?_⟩, (t.prime, low) :: extra, by simp [hex], ?_⟩,
      by simp only [hk1]; omega⟩
    · simp only [List.map_cons, List.reverse_cons, hk3, List.range_succ, List.map_append, List.map_nil, hk2]
    · intro x hx
      rcases List.mem_cons.mp hx with rfl | hx
      · exact ⟨rfl, hle, k, hk2⟩
      · exact hall x hx
  obtain ⟨t, ⟨hF, hex⟩, hc, he⟩ := key
  rw [he]
  exact ⟨hF, Nat.lt_of_not_le hc, hex⟩

/-- `s = {}`: the first call, where `if (!prime_)` fetches -/
theorem feedSegment_spec (src : Nat → Nat) (h : SrcOk src) (low high : Nat) (hh : high ≤ umax) (s : St)
    (hs : s = {} ∨ FInv src s) :
    FInv src (feedSegment src low high s) ∧ Nat.sqrt high < (feedSegment src low high s).prime ∧
    (∀ i, src i ≤ Nat.sqrt high → src i ∈ (feedSegment src low high s).added.map Prod.fst) ∧
    ∃ extra, (feedSegment src low high s).added = extra ++ s.added ∧
      ∀ x ∈ extra, x.2 = low ∧ x.1 * x.1 ≤ high ∧ ∃ i, x.1 = src i := by
  have hB : Nat.sqrt high < umax := by
    rw [Nat.sqrt_lt]; unfold umax at *; omega
  -- the state after `if (!prime_) prime_ = next()`
  obtain ⟨s1, he, hinv1, hadd1⟩ : ∃ s1, feedSegment src low high s =
      loop src low (Nat.sqrt high) (Nat.sqrt high + 2) s1 ∧ FInv src s1 ∧ s1.added = s.added := by
    rcases hs with rfl | hinv
    · exact ⟨_, rfl, ⟨0, rfl, rfl, rfl⟩, rfl⟩
    · have ⟨k, _, hk2, _⟩ := hinv
      have hp := h.pos k
      exact ⟨s, by rw [feedSegment, if_neg (by omega)], hinv, rfl⟩
  rw [he]
  obtain ⟨h1, h2, extra, h3, h4⟩ := loop_spec src h low (Nat.sqrt high) hB (Nat.sqrt high + 2) s1 hinv1 (by omega)
  refine ⟨h1, h2, fun i hi => ?_, extra, by rw [h3, hadd1], fun x hx => ?_⟩
  · obtain ⟨k, _, hk2, hk3⟩ := h1
    rw [← List.mem_reverse, hk3]
    have hik : i < k := by
      by_contra hge
      have := h.mono k i (by omega)
      omega
    exact List.mem_map.mpr ⟨i, List.mem_range.mpr hik, rfl⟩
  · obtain ⟨ha, hb, hc⟩ := h4 x hx
    exact ⟨ha, Nat.le_sqrt.mp hb, hc⟩

def AddedOk (src : Nat → Nat) (low stop : Nat) (added : List (Nat × Nat)) : Prop :=
  ∀ x ∈ added, x.2 % 30 = 0 ∧ x.2 ≤ low ∧ x.1 * x.1 ≤ stop ∧ ∃ i, x.1 = src i

/-- what makes a segment [L, H] decide primality (`Fed.number_correct`): when it is sieved, the calls `added` contain
    every source value ≤ isqrt(H), and each is made with a source value of square ≤ stop at a segment start ≤ L -/
structure Fed (src : Nat → Nat) (stop L H : Nat) (added : List (Nat × Nat)) : Prop where
  low30 : L % 30 = 0
  high_le : H ≤ stop
  complete : ∀ i, src i ≤ Nat.sqrt H → src i ∈ added.map Prod.fst
  added_ok : AddedOk src L stop added

theorem run_nil (src : Nat → Nat) (fuel : Nat) (g : EratGeom) (s : St) (h : g.hasNextSegment = false) :
    run src fuel g s = [] := by
  cases fuel <;> simp [run, h]

/-- the whole segment loop: every segment (low, bytes, high, added) that the loop produces — for every interval,
    sieve size and source sequence — is fed, and high is the last number of the segment, capped at stop -/
theorem run_spec (src : Nat → Nat) (h : SrcOk src) (stop : Nat) :
    ∀ (fuel : Nat) (g : EratGeom) (s : St), GInv g → g.stop = stop → (s = {} ∨ FInv src s) →
      AddedOk src g.segmentLow stop s.added →
      ∀ r ∈ run src fuel g s, Fed src stop r.1 r.2.2.1 r.2.2.2 ∧ r.2.2.1 = min (r.1 + 30 * r.2.1 + 6) stop := by
  intro fuel
  induction fuel with
  | zero => intro g s _ _ _ _ r hr; simp [run] at hr
  | succ f ih =>
    intro g s hg hst hs hadd r hr
    rw [run, if_pos hg.hasNext] at hr
    have hhs : g.segmentHigh ≤ stop := hst ▸ hg.high_le
    obtain ⟨f1, _, f3, extra, f4, f5⟩ :=
      feedSegment_spec src h g.segmentLow g.segmentHigh (Nat.le_trans hg.high_le hg.stop_le) s hs
    have hadd' : AddedOk src g.segmentLow stop (feedSegment src g.segmentLow g.segmentHigh s).added := by
      intro x hx
      rw [f4] at hx
      rcases List.mem_append.mp hx with hx | hx
      · obtain ⟨a, b, c⟩ := f5 x hx
        exact ⟨a ▸ hg.low30, Nat.le_of_eq a, Nat.le_trans b hhs, c⟩
      · exact hadd x hx
    rcases List.mem_cons.mp hr with rfl | hr
    · simp only [EratGeom.sieveSegment_low]
      exact ⟨⟨hg.low30, hhs, f3, hadd'⟩, hst ▸ hg.high_eq_min⟩
    · by_cases hlt : g.segmentHigh < g.stop
      · obtain ⟨_, hlow', hinv'⟩ := hg.next hlt
        refine ih _ _ hinv' (by rw [EratGeom.sieveSegment_stop, hst]) (Or.inr f1) (fun x hx => ?_) r hr
        obtain ⟨a, b, c⟩ := hadd' x hx
        exact ⟨a, by omega, c⟩
      · rw [run_nil src f _ _ (hg.last (Nat.not_lt.mp hlt)).1] at hr
        cases hr

/-- a fed segment decides primality: let the source deliver only primes > 163 below its sentinel, and every such
    prime with p² ≤ stop.  Then a number n = L + 30·o + offs[b] of a fed segment (163 < n ≤ H ≤ stop < 2^64) is prime iff
    its pre-sieved bit is set and NONE OF THE ADDED sieving primes crosses it off (real addSievingPrime; specification
    walk). -/
theorem Fed.number_correct {src : Nat → Nat} {stop L H : Nat} {added : List (Nat × Nat)} (hf : Fed src stop L H added)
    (big : Nat → Bool) (o b n : Nat) (hn : n = L + 30 * o + PreSieve.offs.getD b 0)
    (hprimes : ∀ i, src i < umax → (src i).Prime ∧ 163 < src i)
    (hall : ∀ p, p.Prime → 163 < p → p * p ≤ stop → ∃ i, src i = p) (hb : b < 8)
    (h163 : 163 < n) (hnH : n ≤ H) (hstop : stop < U64) :
    n.Prime ↔ ((preSieveByte allTables L o).testBit b = true ∧
      ∀ x ∈ added, ¬ (if big x.1 then CrossedOff210 stop x.1 x.2 n else CrossedOff30 stop x.1 x.2 n)) := by
  have hL7 := hn ▸ (number_coprime_gt L o b hf.low30 hb).2
  -- every added x is a sieving prime, so `crossedOff_iff_routed` says what it crosses off
  have hx : ∀ x ∈ added, x.1.Prime ∧ 163 < x.1 ∧
      ((if big x.1 then CrossedOff210 stop x.1 x.2 n else CrossedOff30 stop x.1 x.2 n) ↔
        ClearedBy (if big x.1 then 210 else 30) x.1 n) := by
    intro x hx
    obtain ⟨h30, hle, hsq, i, hi⟩ := hf.added_ok x hx
    have hlt : src i < umax := by
      have := lt_2_32_of_sq_lt hsq hstop
      unfold umax; omega
    obtain ⟨hp, hp163⟩ := hprimes i hlt
    rw [← hi] at hp hp163
    exact ⟨hp, hp163, crossedOff_iff_routed big stop x.1 x.2 n hp hp163 hsq h30 (by omega) (Nat.le_trans hnH hf.high_le) hstop⟩
  rw [hn, number_prime_iff big H L o b hf.low30 hb (hn ▸ h163) (hn ▸ hnH), ← hn]
  refine and_congr_right fun _ => ⟨fun h x hxa hc => ?_, fun h p hp hp163 hpH hc => ?_⟩
  · -- an added prime that crosses n off has its square ≤ n ≤ H
    obtain ⟨hp, hp163, hiff⟩ := hx x hxa
    obtain ⟨q, hq, _, hnq⟩ := hiff.mp hc
    exact h x.1 hp hp163 (Nat.le_trans (hnq ▸ Nat.mul_le_mul_left _ hq) hnH) (hiff.mp hc)
  · -- a prime p with p² ≤ H is a source value ≤ isqrt(H), so it has been added
    obtain ⟨i, rfl⟩ := hall p hp hp163 (Nat.le_trans hpH hf.high_le)
    obtain ⟨x, hxa, hx1⟩ := List.mem_map.mp (hf.complete i (Nat.le_sqrt.mpr hpH))
    exact h x hxa ((hx x hxa).2.2.mpr (hx1 ▸ hc))

end Ps.Feed
