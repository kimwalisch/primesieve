/-
  PsProofs.Fill — what the index arithmetic of PrimeGenerator's buffer handling (C12) rests on: the primePi
  table is monotone, the two index functions are lookups in it, a word's stores stay below a bound that
  leaves the loop's slack (64 slots; popcount + 8 for AVX512).
-/
import PsModel.FillPrimes
namespace Ps.Fill

/-- every entry is at most its successor and the last one at most `hi`: one pass over the list -/
def climbsTo (hi : Nat) : List Nat → Bool
  | [] => true
  | [a] => a ≤ hi
  | a :: b :: r => a ≤ b && climbsTo hi (b :: r)

theorem climbsTo_getD {hi : Nat} : ∀ {l : List Nat}, climbsTo hi l = true → ∀ {i j : Nat}, i ≤ j → j < l.length →
    l.getD i 0 ≤ l.getD j 0 ∧ l.getD j 0 ≤ hi
  | [a], h, i, j, hij, hj => by
    obtain rfl : j = 0 := Nat.lt_one_iff.mp hj
    obtain rfl : i = 0 := Nat.le_zero.mp hij
    exact ⟨Nat.le_refl _, of_decide_eq_true h⟩
  | a :: b :: r, h, i, j, hij, hj => by
    simp only [climbsTo, Bool.and_eq_true, decide_eq_true_eq] at h
    have ih := fun {i j} => climbsTo_getD h.2 (i := i) (j := j)
    match i, j, hij, hj with
    | 0, 0, _, _ => exact ⟨Nat.le_refl _, Nat.le_trans h.1 (ih (Nat.le_refl 0) (Nat.zero_lt_succ _)).2⟩
    | 0, j + 1, _, hj =>
      have := ih (Nat.zero_le j) (Nat.lt_of_succ_lt_succ hj)
      exact ⟨Nat.le_trans h.1 this.1, this.2⟩
    | i + 1, j + 1, hij, hj => exact ih (Nat.le_of_succ_le_succ hij) (Nat.lt_of_succ_lt_succ hj)

theorem primePi_len : Gen.primePi720.length = 720 := by decide +kernel
theorem smallPrimes_len : Gen.smallPrimes128.length = 128 := by decide +kernel

/-- 128 = the number of cached primes (`smallPrimes_len`) -/
theorem primePi_mono {i j : Nat} (hij : i ≤ j) (hj : j < 720) :
    Gen.primePi720.getD i 0 ≤ Gen.primePi720.getD j 0 ∧ Gen.primePi720.getD j 0 ≤ 128 :=
  climbsTo_getD (by decide +kernel : climbsTo 128 Gen.primePi720 = true) hij (primePi_len ▸ hj)

/-- primePi[0] = 0, so the guard `start > 1` of getStartIdx only avoids the index -1 -/
theorem getStartIdx_eq (start : Nat) : getStartIdx start = Gen.primePi720.getD (start - 1) 0 := by
  unfold getStartIdx
  split
  · rfl
  · rw [show start - 1 = 0 by omega]; rfl

/-- primePi[719] = 128, so getStopIdx is the table lookup at min(stop, 719) -/
theorem getStopIdx_eq (stop : Nat) : getStopIdx stop = Gen.primePi720.getD (min stop 719) 0 := by
  unfold getStopIdx Gen.maxCachedPrime
  split
  · rw [Nat.min_eq_left (by omega)]
  · rw [Nat.min_eq_right (by omega)]; decide +kernel

theorem growTo_eq_max (old req : Nat) : growTo old req = max old req := by
  unfold growTo; split <;> omega

/-- a word's stores at `i` stay below `n` when 64 slots are left: ASSERT(i + 64 <= maxSize) -/
theorem writesDefault_lt {i pc n : Nat} (hpc : pc ≤ 64) (hn : i + 64 ≤ n) : ∀ k ∈ writesDefault i pc, k < n := by
  intro k hk
  unfold writesDefault at hk
  rw [List.mem_range'_1] at hk
  omega

/-- the 8-lane stores for `pc` primes at `i` stay below `n` when `pc + 8` slots are left -/
theorem writesAvx_lt {i pc n : Nat} (hn : i + pc + 8 ≤ n) : ∀ k ∈ writesAvx i pc, k < n := by
  intro k hk
  unfold writesAvx at hk
  rw [List.mem_range'_1] at hk
  omega

/-- bitValues has 65 entries: index ctz64(bits) ≤ 64 is in bounds even for bits = 0 (the unrolled
    loop calls nextPrime on exhausted words) -/
theorem ctz64_le (bits : Nat) : ctz64 bits ≤ 64 := by
  unfold ctz64
  split
  · exact Nat.le_refl _
  · cases h : (List.range 64).find? (fun k => bits.testBit k) with
    | none => exact Nat.le_refl _
    | some k => exact Nat.le_of_lt (List.mem_range.mp (List.mem_of_find?_eq_some h))

end Ps.Fill
