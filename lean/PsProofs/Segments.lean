/-
  PsProofs.Segments — the segment grid of Erat (init, sieveSegment, sieveLastSegment): the segments tile
  [start, stop], each starts where the previous one ended, the first one contains start.
-/
import PsModel.Erat
namespace Ps

/-- the segments (low, bytes) produced by repeated Erat::sieveSegment while hasNextSegment() -/
def EratGeom.segments : Nat → EratGeom → List (Nat × Nat)
  | 0, _ => []
  | fuel + 1, g =>
    if g.hasNextSegment then
      let r := g.sieveSegment
      (r.1, r.2.1) :: EratGeom.segments fuel r.2.2
    else []

/-- `high_eq`: while the segment is not the last, segmentHigh_ = low + 30·size + 6 -/
structure GInv (g : EratGeom) : Prop where
  low30 : g.segmentLow % 30 = 0
  size_pos : 0 < g.sieveSize
  low_stop : g.segmentLow + 7 ≤ g.stop
  stop_le : g.stop ≤ umax
  high_eq : g.segmentHigh < g.stop → g.segmentHigh = g.segmentLow + 30 * g.sieveSize + 6
  high_le : g.segmentHigh ≤ g.stop

theorem checkedAdd_min (x y : Nat) : checkedAdd x y = min (x + y) umax ∨ (y > umax ∧ checkedAdd x y = umax) :=
  Or.inl (checkedAdd_eq x y)

/-- under a cap `s ≤ umax` (segmentHigh_ = min(checkedAdd(..), stop_)) the saturation of checkedAdd is not seen -/
theorem min_checkedAdd {s : Nat} (hs : s ≤ umax) (x y : Nat) : min (checkedAdd x y) s = min (x + y) s := by
  rw [checkedAdd_eq, Nat.min_assoc, Nat.min_eq_right hs]

theorem byteRemainder_bounds (n : Nat) : 7 ≤ byteRemainder n ∧ byteRemainder n ≤ 36 := by
  unfold byteRemainder; omega

theorem byteRemainder_mod (n : Nat) (h : 7 ≤ n) : (n - byteRemainder n) % 30 = 0 ∧ byteRemainder n ≤ n := by
  unfold byteRemainder; omega

namespace EratGeom

theorem sieveSegment_low (g : EratGeom) : g.sieveSegment.1 = g.segmentLow := by
  unfold sieveSegment; split <;> rfl

theorem sieveSegment_stop (g : EratGeom) : g.sieveSegment.2.2.stop = g.stop := by
  unfold sieveSegment; split <;> rfl

theorem segments_nil {g : EratGeom} (h : g.hasNextSegment = false) (fuel : Nat) : g.segments fuel = [] := by
  cases fuel <;> simp [segments, h]

end EratGeom

namespace GInv
variable {g : EratGeom} (h : GInv g)
include h

theorem hasNext : g.hasNextSegment = true := by
  have := h.low_stop
  simp only [EratGeom.hasNextSegment, decide_eq_true_eq]; omega

/-- `hlt`: not the last segment -/
theorem next (hlt : g.segmentHigh < g.stop) :
    g.sieveSegment.2.1 = g.sieveSize ∧ g.sieveSegment.2.2.segmentLow = g.segmentLow + 30 * g.sieveSize ∧
    GInv g.sieveSegment.2.2 := by
  have he := h.high_eq hlt
  have hs := h.stop_le
  have hl := h.low30
  have hlow : checkedAdd g.segmentLow (g.sieveSize * 30) = g.segmentLow + 30 * g.sieveSize := by
    rw [checkedAdd_eq]; omega
  rw [EratGeom.sieveSegment, if_pos hlt]
  refine ⟨rfl, hlow, { low30 := ?_, size_pos := h.size_pos, low_stop := ?_, stop_le := hs, high_eq := ?_, high_le := Nat.min_le_right _ _ }⟩
  all_goals simp only [hlow, min_checkedAdd hs]
  all_goals omega

/-- the last segment reaches stop (up to the 5 numbers ≡ 2..6 mod 30 that have no bit), has no byte more than that
    takes, and ends the loop -/
theorem last (hge : g.stop ≤ g.segmentHigh) :
    g.sieveSegment.2.2.hasNextSegment = false ∧ 0 < g.sieveSegment.2.1 ∧
    g.stop ≤ g.segmentLow + 30 * g.sieveSegment.2.1 + 6 ∧ g.segmentLow + 30 * g.sieveSegment.2.1 + 1 < g.stop + 30 := by
  have hr := byteRemainder_bounds g.stop
  have hm := byteRemainder_mod g.stop (by have := h.low_stop; omega)
  have hl := h.low30
  have hls := h.low_stop
  rw [EratGeom.sieveSegment, if_neg (Nat.not_lt.mpr hge)]
  refine ⟨decide_eq_false (Nat.lt_irrefl _), Nat.succ_pos _, ?_, ?_⟩
  all_goals simp only
  all_goals omega

/-- segmentHigh_ is the last number of the segment that is sieved next, capped at stop -/
theorem high_eq_min : g.segmentHigh = min (g.segmentLow + 30 * g.sieveSegment.2.1 + 6) g.stop := by
  by_cases hlt : g.segmentHigh < g.stop
  · rw [(h.next hlt).1, ← h.high_eq hlt]; omega
  · have := (h.last (Nat.not_lt.mp hlt)).2.2.1
    have := h.high_le
    omega

end GInv

/-- consecutive segments: each starts where the previous one ended -/
def Adjacent : List (Nat × Nat) → Prop
  | [] => True
  | [_] => True
  | a :: b :: r => b.1 = a.1 + 30 * a.2 ∧ Adjacent (b :: r)

theorem Adjacent.cons {a b : Nat × Nat} {l : List (Nat × Nat)} (hl : Adjacent l) (hb : l.head? = some b)
    (hab : b.1 = a.1 + 30 * a.2) : Adjacent (a :: l) := by
  cases l with
  | nil => trivial
  | cons c r => cases hb; exact ⟨hab, hl⟩

/-- every number of [segmentLow + 7, stop] that has a bit in the sieve (its residue mod 30 is not
    2..6; segment starts are ≡ 0 mod 30) lies in one of the segments produced by the loop, and consecutive
    segments are adjacent: each starts where the previous one ended -/
theorem segments_tile : ∀ (fuel : Nat) (g : EratGeom), GInv g → g.stop - g.segmentLow < fuel →
    (∀ n, g.segmentLow + 7 ≤ n → n ≤ g.stop → ¬ (2 ≤ n % 30 ∧ n % 30 ≤ 6) →
      ∃ seg ∈ g.segments fuel, seg.1 + 7 ≤ n ∧ n ≤ seg.1 + 30 * seg.2 + 1) ∧
    (g.segments fuel).head? = some (g.segmentLow, (g.sieveSegment).2.1) ∧
    Adjacent (g.segments fuel) := by
  intro fuel
  induction fuel with
  | zero => intro g _ hf; omega
  | succ f ih =>
    intro g hg hf
    have hl30 := hg.low30
    simp only [EratGeom.segments, hg.hasNext, if_true, EratGeom.sieveSegment_low]
    by_cases hlt : g.segmentHigh < g.stop
    · obtain ⟨hsz, hlow', hinv'⟩ := hg.next hlt
      have hp := hg.size_pos
      have hls' := hinv'.low_stop
      rw [EratGeom.sieveSegment_stop, hlow'] at hls'
      obtain ⟨ihc, ihh, iha⟩ := ih _ hinv' (by rw [EratGeom.sieveSegment_stop, hlow']; omega)
      refine ⟨fun n h1 h2 h3 => ?_, rfl, iha.cons ihh (by rw [hlow', hsz])⟩
      by_cases hin : n ≤ g.segmentLow + 30 * g.sieveSize + 1
      · exact ⟨_, List.mem_cons_self, h1, by rw [hsz]; exact hin⟩
      · obtain ⟨seg, hmem, hs⟩ := ihc n (by rw [hlow']; omega) (by rw [EratGeom.sieveSegment_stop]; exact h2) h3
        exact ⟨seg, List.mem_cons_of_mem _ hmem, hs⟩
    · obtain ⟨hno, _, hcov, _⟩ := hg.last (Nat.not_lt.mp hlt)
      rw [EratGeom.segments_nil hno]
      exact ⟨fun n h1 h2 h3 => ⟨_, List.mem_cons_self, h1, by omega⟩, rfl, trivial⟩

theorem roundUp8_ge (x : Nat) : x ≤ roundUp8 x := by unfold roundUp8 ceilDiv; omega
theorem floorPow2_pos (x : Nat) (h : 0 < x) : 0 < floorPow2 x := by
  unfold floorPow2; rw [if_neg (by omega)]; exact Nat.pow_pos (by decide)

theorem baseSize_ge (cfg : EratCfg) (stop kib : Nat) : 16 * 1024 ≤ EratGeom.baseSize cfg stop kib := by
  unfold EratGeom.baseSize
  exact Nat.le_trans (inBetween_range (by decide) _).1 (roundUp8_ge _)

theorem sizes_pos (cfg : EratCfg) (stop kib : Nat) : 0 < (EratGeom.sizes cfg stop kib).1 := by
  unfold EratGeom.sizes
  simp only
  have := baseSize_ge cfg stop kib
  generalize EratGeom.baseSize cfg stop kib = X at this ⊢
  split
  · exact floorPow2_pos _ (by omega)
  · omega

theorem roundUp8_mod (x : Nat) : roundUp8 x % 8 = 0 := by unfold roundUp8; omega

/-- the size chosen by initAlgorithms is a multiple of 8, or the power of two below one (EratBig) -/
theorem sizes_mod8_or_pow2 (cfg : EratCfg) (stop kib : Nat) :
    (EratGeom.sizes cfg stop kib).1 % 8 = 0 ∨ ∃ k, (EratGeom.sizes cfg stop kib).1 = 2 ^ k := by
  unfold EratGeom.sizes
  dsimp only
  split
  · unfold floorPow2
    split
    · exact Or.inl rfl
    · exact Or.inr ⟨_, rfl⟩
  · unfold EratGeom.baseSize; exact Or.inl (roundUp8_mod _)

/-- Erat::init (start ≥ 7 is its ASSERT; start ≤ stop, start < 2^64-1 is its guard) establishes the loop invariant -/
theorem init_GInv (cfg : EratCfg) (start stop kib : Nat) (h7 : 7 ≤ start) (hss : start ≤ stop) (hst : stop ≤ umax)
    (hsu : start < umax) :
    GInv (EratGeom.init cfg start stop kib) ∧ (EratGeom.init cfg start stop kib).segmentLow + 7 ≤ start ∧
    start ≤ (EratGeom.init cfg start stop kib).segmentLow + 36 ∧ (EratGeom.init cfg start stop kib).stop = stop := by
  have hS := sizes_pos cfg stop kib
  have hR := roundUp8_ge ((stop - byteRemainder stop - (start - byteRemainder start)) / 30 + 1)
  have hr := byteRemainder_bounds start
  have hm := byteRemainder_mod start h7
  rw [EratGeom.init, if_neg (by omega)]
  simp only [min_checkedAdd hst]
  generalize (EratGeom.sizes cfg stop kib).1 = S at hS ⊢
  refine ⟨⟨hm.1, ?_, ?_, hst, fun hlt => ?_, Nat.min_le_right _ _⟩, by omega, by omega, trivial⟩
  · dsimp only; split <;> omega
  · dsimp only; omega
  · dsimp only at hlt ⊢
    rw [if_neg (fun h => by omega)]
    omega

end Ps
