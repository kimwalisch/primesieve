/-
  PsProofs.IterFault — allocation failures inside next_prime / prev_prime leave the iterator a
  consistent cursor: the failing call raises, the cursor stays where it was.
-/
import PsProofs.IterSim
namespace Ps
open Ps.Spec

/-- operations with an optional allocation failure -/
inductive FOp where
  | plain (op : Op)
  | nextFault (k : Nat)
  | prevFault

def Iter.stepF (env : Env) (st : Iter) : FOp → Out × Iter
  | .plain op => st.step env op
  | .nextFault k => match st.nextFault env k with
    | (.ok v, st') => (.val v, st')
    | (.error e, st') => (.err e, st')
  | .prevFault => match st.prevFault env with
    | (.ok v, st') => (.val v, st')
    | (.error e, st') => (.err e, st')

/-- the operation a faulting call stands for -/
def FOp.base : FOp → Op
  | .plain op => op
  | .nextFault k => .next k
  | .prevFault => .prev

theorem stepF_sim {env : Env} (h : EnvOK env) {st : Iter} {c : Cursor} (hR : R st c) (op : FOp)
    (hop : Op.WF op.base) :
    ((st.stepF env op).1 = (specStep c op.base).1 ∧ R (st.stepF env op).2 (specStep c op.base).2) ∨
    ((st.stepF env op).1 = .err .badAlloc ∧ R (st.stepF env op).2 c) := by
  cases op with
  | plain op => exact Or.inl (step_sim h hR op hop)
  | nextFault k =>
    by_cases hi : st.i + 1 ≥ st.size
    · simp only [Iter.stepF, Iter.nextFault, hi, if_true]
      exact Or.inr ⟨trivial, R_resetTo hR (by omega)⟩
    · simp only [Iter.stepF, Iter.nextFault, hi, if_false]
      exact Or.inl (step_sim h hR (.next k) hop)
  | prevFault =>
    by_cases hi : st.i = 0
    · simp only [Iter.stepF, Iter.prevFault, hi, if_true]
      exact Or.inr ⟨trivial, R_resetTo hR (by omega)⟩
    · simp only [Iter.stepF, Iter.prevFault, hi, if_false]
      exact Or.inl (step_sim h hR .prev hop)

/-- outputs a cursor may produce for a history with faults -/
inductive FaultRun : Cursor → List FOp → List Out → Prop
  | nil (c) : FaultRun c [] []
  | ok (c op ops outs) : FaultRun (specStep c op.base).2 ops outs →
      FaultRun c (op :: ops) ((specStep c op.base).1 :: outs)
  | fail (c op ops outs) : FaultRun c ops outs → FaultRun c (op :: ops) (.err .badAlloc :: outs)

def Iter.runF (env : Env) : Iter → List FOp → List Out
  | _, [] => []
  | st, op :: ops => let r := st.stepF env op; r.1 :: Iter.runF env r.2 ops

theorem runF_sim {env : Env} (h : EnvOK env) (ops : List FOp) :
    ∀ (st : Iter) (c : Cursor), R st c → (∀ op ∈ ops, Op.WF op.base) → FaultRun c ops (Iter.runF env st ops) := by
  induction ops with
  | nil => intro st c _ _; exact FaultRun.nil c
  | cons op ops ih =>
    intro st c hR hwf
    have hop := hwf op (List.mem_cons_self ..)
    have hrest : ∀ o ∈ ops, Op.WF o.base := fun o ho => hwf o (List.mem_cons_of_mem _ ho)
    rcases stepF_sim h hR op hop with ⟨h1, h2⟩ | ⟨h1, h2⟩
    · simp only [Iter.runF]
      rw [h1]
      exact FaultRun.ok c op ops _ (ih _ _ h2 hrest)
    · simp only [Iter.runF]
      rw [h1]
      exact FaultRun.fail c op ops _ (ih _ _ h2 hrest)

end Ps
