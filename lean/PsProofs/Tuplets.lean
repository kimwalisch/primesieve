/-
  PsProofs.Tuplets — the facts about `PsSpec.Tuplets` that do not depend on the sieve.
  A constellation that starts at 7 or above lies inside one window 30w+7 .. 30w+31
  (`tuplet_window`), which is why neither a sieve byte nor a piece boundary of ParallelSieve
  splits one.
-/
import PsSpec.Tuplets

namespace Ps.Spec

/-- the patterns counter i counts (0 = primes, 1 = twins, … 5 = sextuplets): a prime is the
    constellation with the single offset 0 -/
def pats (i : Nat) : List (List Nat) := if i = 0 then [[0]] else patterns i

/-- what the counter of kind i must equal -/
noncomputable def kindCount (i lo hi : Nat) : Nat := ((pats i).map (fun ds => tupletCount ds lo hi)).sum

theorem patterns_sub : ∀ kind < 6, ∀ ds ∈ patterns kind, ds ∈ allPatterns := by decide

theorem zero_mem_patterns : ∀ ds ∈ allPatterns, 0 ∈ ds := by decide
theorem span_mem : ∀ ds ∈ allPatterns, span ds ∈ ds := by decide
theorem le_span : ∀ ds ∈ allPatterns, ∀ d ∈ ds, d ≤ span ds := by decide
theorem span_le_16 : ∀ ds ∈ allPatterns, span ds ≤ 16 := by decide

theorem countIn_empty (P : Nat → Prop) {lo hi : Nat} (h : hi < lo) : countIn P lo hi = 0 := by
  unfold countIn
  rw [range'_sub_empty h]; rfl

theorem countIn_split (P : Nat → Prop) {lo mid hi : Nat} (h1 : lo ≤ mid + 1) (h2 : mid ≤ hi) :
    countIn P lo mid + countIn P (mid + 1) hi = countIn P lo hi := by
  unfold countIn
  rw [← range'_sub_append h1 (Nat.succ_le_succ h2), List.filter_append, List.length_append]

open Classical in
theorem countIn_congr {P Q : Nat → Prop} {lo hi : Nat} (h : ∀ x, lo ≤ x → x ≤ hi → (P x ↔ Q x)) :
    countIn P lo hi = countIn Q lo hi := by
  unfold countIn
  rw [← List.countP_eq_length_filter, ← List.countP_eq_length_filter]
  apply List.countP_congr
  intro x hx
  have := List.mem_range'_1.1 hx
  rw [decide_eq_true_eq, decide_eq_true_eq]
  exact h x this.1 (by omega)

theorem countIn_zero {P : Nat → Prop} {lo hi : Nat} (h : ∀ x, lo ≤ x → x ≤ hi → ¬ P x) : countIn P lo hi = 0 := by
  unfold countIn
  rw [List.length_eq_zero_iff, List.filter_eq_nil_iff]
  intro x hx
  have := List.mem_range'_1.1 hx
  simpa using h x this.1 (by omega)

theorem countIn_guard (P : Nat → Prop) (lo hi : Nat) :
    countIn P lo hi = countIn (fun p => lo ≤ p ∧ P p) 0 hi := by
  by_cases h : lo ≤ hi + 1
  · cases lo with
    | zero => exact countIn_congr fun x _ _ => (and_iff_right (Nat.zero_le x)).symm
    | succ l =>
      rw [← countIn_split (fun p => l + 1 ≤ p ∧ P p) (Nat.zero_le _) (show l ≤ hi by omega),
        countIn_zero (lo := 0) (hi := l) (fun x _ hx h => by omega), Nat.zero_add]
      exact countIn_congr fun x hx _ => (and_iff_right hx).symm
  · rw [countIn_empty _ (by omega), countIn_zero (fun x _ hx h => by omega)]

theorem tupletCount_prime (lo hi : Nat) : tupletCount [0] lo hi = primeCount lo hi :=
  countIn_congr fun x _ hx => ⟨fun h => h.2 0 (List.mem_singleton_self 0), fun h =>
    ⟨hx, fun d hd => by rw [List.mem_singleton.1 hd]; exact h⟩⟩

theorem kindCount_zero (lo hi : Nat) : kindCount 0 lo hi = primeCount lo hi := by
  simp [kindCount, pats, tupletCount_prime]

theorem kindCount_pos {i : Nat} (h : i ≠ 0) (lo hi : Nat) :
    kindCount i lo hi = ((patterns i).map (fun ds => tupletCount ds lo hi)).sum := by
  rw [kindCount, pats, if_neg h]

theorem kindCount_empty (i : Nat) {lo hi : Nat} (h : hi < lo) : kindCount i lo hi = 0 := by
  unfold kindCount
  have : ∀ ds ∈ pats i, tupletCount ds lo hi = 0 := fun ds _ => countIn_empty _ h
  rw [List.map_congr_left this]
  simp

theorem tupletList_empty (kind : Nat) {a b : Nat} (h : b < a) : tupletList kind a b = [] := by
  unfold tupletList
  rw [range'_sub_empty h]; rfl

theorem primesIn_length (a b : Nat) : (primesIn a b).length = primeCount a b := by
  unfold primesIn primesHO primeCount countIn
  congr 1
  apply List.filter_congr
  intro x _
  exact decide_eq_decide.2 Iff.rfl

theorem filter_length_eq_sum {α : Type} (p : α → Bool) (l : List α) :
    (l.filter p).length = (l.map (fun x => if p x then 1 else 0)).sum := by
  induction l with
  | nil => rfl
  | cons x l ih => simp only [List.filter_cons, List.map_cons, List.sum_cons]; split <;> simp [ih]; omega

theorem sum_map_add {α : Type} (f g : α → Nat) (l : List α) :
    (l.map (fun x => f x + g x)).sum = (l.map f).sum + (l.map g).sum := by
  induction l with
  | nil => rfl
  | cons x l ih => simp only [List.map_cons, List.sum_cons, ih]; omega

/-- counting the pairs (x, d) with Q x d by rows and by columns -/
theorem sum_filter_swap {α β : Type} (l : List α) (ps : List β) (Q : α → β → Bool) :
    (l.map (fun x => (ps.filter (Q x)).length)).sum =
      (ps.map (fun d => (l.filter (fun x => Q x d)).length)).sum := by
  induction ps with
  | nil => simp
  | cons d ps ih =>
    have : ∀ x, ((d :: ps).filter (Q x)).length = (if Q x d then 1 else 0) + (ps.filter (Q x)).length := by
      intro x; simp only [List.filter_cons]; split <;> simp; omega
    simp only [this, sum_map_add, ih, List.map_cons, List.sum_cons, filter_length_eq_sum (fun x => Q x d)]

open Classical in
theorem tupletList_length (kind a b : Nat) :
    (tupletList kind a b).length = ((patterns kind).map (fun ds => tupletCount ds a b)).sum := by
  unfold tupletList tupletCount countIn
  rw [List.length_flatMap]
  simp only [List.length_map]
  refine (sum_filter_swap _ (patterns kind) (fun p ds => decide (p + span ds ≤ b ∧ tupletAt ds p))).trans ?_
  congr 1
  apply List.map_congr_left
  intro ds _
  congr 1
  apply List.filter_congr
  intro x _
  exact decide_eq_decide.2 Iff.rfl

/-- a pattern placed at residue r so that all its members are coprime to 30 fits inside one byte
    window: with r taken in [7, 37), r + span ≤ 31 -/
theorem residue_window :
    ∀ ds ∈ allPatterns, ∀ r < 30, (∀ d ∈ ds, Nat.gcd ((r + d) % 30) 30 = 1) →
      (r + 23) % 30 + 7 + span ds ≤ 31 := by
  decide +kernel

/-- a constellation whose first member is p ≥ 7 lies inside the window 30w+7 .. 30w+31 of p, the
    numbers of one sieve byte: all its members are coprime to 30 (`residue_window`) -/
theorem tuplet_window {ds : List Nat} (hds : ds ∈ allPatterns) {p : Nat} (ht : tupletAt ds p) (h7 : 7 ≤ p) :
    (p - 7) % 30 + span ds ≤ 24 := by
  have := residue_window ds hds (p % 30) (Nat.mod_lt _ (by decide)) fun d hd => by
    rw [Nat.mod_add_mod]; exact prime_coprime30 (ht d hd) (by omega)
  omega

/-- b ≡ 2 (mod 30) is what ParallelSieve::align returns: 30w+32, one past a window -/
theorem no_split {ds : List Nat} (hds : ds ∈ allPatterns) {p b : Nat} (hb : b % 30 = 2)
    (hb32 : 32 ≤ b) (ht : tupletAt ds p) (hpb : p ≤ b) : p + span ds ≤ b := by
  by_cases h7 : p < 7
  · have := span_le_16 ds hds; omega
  · have := tuplet_window hds ht (Nat.le_of_not_lt h7); omega

theorem tupletCount_split {ds : List Nat} {lo b hi : Nat} (h1 : lo ≤ b + 1) (h2 : b ≤ hi)
    (hns : ∀ p, tupletAt ds p → p ≤ b → p + span ds ≤ b) :
    tupletCount ds lo b + tupletCount ds (b + 1) hi = tupletCount ds lo hi := by
  unfold tupletCount
  rw [← countIn_split _ h1 h2]
  congr 1
  apply countIn_congr
  intro x _ hx
  exact ⟨fun h => ⟨by omega, h.2⟩, fun h => ⟨hns x h.2 hx, h.2⟩⟩

theorem kindCount_split {i : Nat} (hi6 : i < 6) {lo b hi : Nat} (hb : b % 30 = 2) (hb32 : 32 ≤ b)
    (h1 : lo ≤ b + 1) (h2 : b ≤ hi) :
    kindCount i lo b + kindCount i (b + 1) hi = kindCount i lo hi := by
  unfold kindCount
  rw [← sum_map_add]
  congr 1
  apply List.map_congr_left
  intro ds hds
  apply tupletCount_split h1 h2
  intro p ht hp
  unfold pats at hds
  split at hds
  · rw [List.mem_singleton.1 hds]; exact hp
  · exact no_split (patterns_sub i hi6 ds hds) hb hb32 ht hp

end Ps.Spec
