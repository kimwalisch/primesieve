/-
  PsProofs.Schedule — one sieving prime across segments: the loop shape shared by EratSmall::crossOff, EratMedium::crossOff
  and EratBig::crossOff for a single stored sieving prime,
      while (multipleIndex < sieveSize) { sieve[multipleIndex] &= mask; multipleIndex += …; wheelIndex = next; }
      multipleIndex -= sieveSize;            // state kept for the next segment
  performs, segment after segment, exactly the walk of PsProofs.Wheel: in a segment of S bytes starting at L it clears the
  walk positions below L + 30·S and nothing else, and the state it stores denotes the first position beyond, relative to
  the next segment's start L + 30·S.
-/
import PsProofs.Wheel
import PsProofs.Loop
namespace Ps.Wheel

/-- crossOff of ONE sieving prime over ONE segment of S bytes; returns the stored state and the (byte, bit) cleared, in order -/
def crossSeg (M S : Nat) : Nat → SP → List (Nat × Nat) → SP × List (Nat × Nat)
  | 0, s, acc => ({ s with idx := s.idx - S }, acc)
  | fuel + 1, s, acc =>
    if s.idx < S then crossSeg M S fuel (specStep M s) (acc ++ [(s.idx, bitOf M s)])
    else ({ s with idx := s.idx - S }, acc)

theorem denotes_shift {M L S : Nat} {s : SP} {q : Nat} (h : Denotes M L s q) (hS : S ≤ s.idx) :
    Denotes M (L + 30 * S) { s with idx := s.idx - S } q := by
  refine ⟨h.r_lt, h.q_cls, ?_⟩
  have := h.pos
  dsimp only
  omega

/-- one segment of the loop is a prefix of the walk.  `hsp`: sp > 0, i.e. p ≥ 30 (sieving primes are > 163): every step moves at
    least one byte; for p < 30 a step may stay in its byte and fuel S + 1 would not suffice -/
theorem crossSeg_spec {M size : Nat} {init : List (Nat × Nat)} (hG : Good M size init) (L S fuel : Nat) (s : SP) (q : Nat)
    (h : Denotes M L s q) (hsp : 0 < s.sp) (hf : S ≤ fuel + s.idx) :
    ∃ n, (crossSeg M S fuel s []).1 = { (walk M n s q).1 with idx := (walk M n s q).1.idx - S } ∧
      S ≤ (walk M n s q).1.idx ∧
      Denotes M (L + 30 * S) (crossSeg M S fuel s []).1 (walk M n s q).2 ∧
      (crossSeg M S fuel s []).2 = (List.range n).map (fun j => ((walk M j s q).1.idx, bitOf M (walk M j s q).1)) ∧
      ∀ j, j < n → (walk M j s q).1.idx < S := by
  have key := fuelLoop_rule₂ (F := crossSeg M S) (fun _ _ _ => rfl) (fun _ _ => rfl)
    (fun s' acc => ∃ n, s' = (walk M n s q).1 ∧
      acc = (List.range n).map (fun j => ((walk M j s q).1.idx, bitOf M (walk M j s q).1)) ∧
      ∀ j, j < n → (walk M j s q).1.idx < S)
    (fun s' _ => S - s'.idx) ?step fuel s [] ⟨0, rfl, rfl, fun _ hj => absurd hj (Nat.not_lt_zero _)⟩ (by omega)
  case step =>
    rintro _ _ ⟨n, rfl, rfl, hlt⟩ hc
    obtain ⟨-, hg, -, -⟩ := step_sound hG (walk_exact hG L n s q h).1
    refine ⟨⟨n + 1, by rw [walk_add' M n 1]; rfl, ?_, fun j hj => ?_⟩, ?_⟩
    · rw [List.range_succ, List.map_append]; rfl
    · rcases Nat.lt_succ_iff_lt_or_eq.mp hj with hj | rfl
      · exact hlt j hj
      · exact hc
    · -- the byte index grows by at least sp·gap ≥ 1
      have : 1 ≤ (walk M n s q).1.sp * gapOf M (walk M n s q).1 := Nat.mul_pos (by rwa [walk_sp]) hg
      rw [specStep_idx]; omega
  obtain ⟨_, _, ⟨n, rfl, rfl, hlt⟩, hc, he⟩ := key
  have hS := Nat.le_of_not_lt hc
  rw [he]
  exact ⟨n, rfl, hS, denotes_shift (walk_exact hG L n s q h).1 hS, rfl, hlt⟩

/-- the loop over consecutive segments of sizes `Ss` (bytes): per segment the (byte, bit) cleared, and the final stored state.
    Fuel S + 1 suffices for a segment of S bytes when sp > 0 (`crossSeg_spec`): every step moves at least one byte -/
def crossSegs (M : Nat) : List Nat → SP → List (List (Nat × Nat)) × SP
  | [], s => ([], s)
  | S :: rest, s =>
    let r := crossSeg M S (S + 1) s []
    let rr := crossSegs M rest r.1
    (r.2 :: rr.1, rr.2)

/-- q ≤ q′: nothing is crossed off twice, the position never falls behind the segment grid -/
theorem crossSegs_inv {M size : Nat} {init : List (Nat × Nat)} (hG : Good M size init) :
    ∀ (Ss : List Nat) (L : Nat) (s : SP) (q : Nat), Denotes M L s q → 0 < s.sp →
      ∃ q', q ≤ q' ∧ Denotes M (L + 30 * Ss.sum) (crossSegs M Ss s).2 q' ∧ 0 < (crossSegs M Ss s).2.sp := by
  intro Ss
  induction Ss with
  | nil => intro L s q h hsp; exact ⟨q, Nat.le_refl _, h, hsp⟩
  | cons S rest ih =>
    intro L s q h hsp
    obtain ⟨n, h1, -, h3, -, -⟩ := crossSeg_spec hG L S (S + 1) s q h hsp (by omega)
    have hsp' : 0 < (crossSeg M S (S + 1) s []).1.sp := by
      rw [h1]; exact (walk_sp M n s q).symm ▸ hsp
    obtain ⟨q', hq, hd, hs⟩ := ih (L + 30 * S) _ _ h3 hsp'
    refine ⟨q', Nat.le_trans (Nat.le_of_add_right_le (walk_exact hG L n s q h).2.1) hq, ?_, hs⟩
    rw [List.sum_cons, Nat.mul_add, ← Nat.add_assoc]; exact hd

/-- `hin` says the byte of p·x is < S.  Nothing else is cleared: `crossSeg_spec`, `walk_exact`. -/
theorem crossSeg_clears {M size : Nat} {init : List (Nat × Nat)} (hG : Good M size init) (L S : Nat) (s : SP) (q : Nat) (h : Denotes M L s q) (hsp : 0 < s.sp)
    (x : Nat) (hx : q ≤ x) (hg : Nat.gcd x M = 1) (hin : primeOf M s * x ≤ L + 30 * S + 6) :
    ∃ e ∈ (crossSeg M S (S + 1) s []).2, e.1 < S ∧ e.2 < 8 ∧ primeOf M s * x = L + 30 * e.1 + offs.getD e.2 0 := by
  obtain ⟨n, -, h2, -, h4, -⟩ := crossSeg_spec hG L S (S + 1) s q h hsp (by omega)
  obtain ⟨j, hj, hd⟩ := walk_reaches hG h hx hg
  have hpos := hd.pos'
  rw [walk_prime M hG.size_pos] at hpos
  have hb := hd.bit_lt hG
  have ho := (offs_bounds _ hb).1
  -- the position is below the end of the segment, hence one of the first n of the walk
  have hjn : j < n := Nat.lt_of_not_le fun hge => by
    have := walk_idx_mono M hge s q
    omega
  refine ⟨((walk M j s q).1.idx, bitOf M (walk M j s q).1), ?_, by omega, hb, hpos⟩
  rw [h4]
  exact List.mem_map.mpr ⟨j, List.mem_range.mpr hjn, rfl⟩

end Ps.Wheel
