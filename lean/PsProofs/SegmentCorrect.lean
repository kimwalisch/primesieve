/-
  PsProofs.SegmentCorrect — composition of the pre-sieve, first-multiple, walk and sieve-principle theorems:
  a number of a segment is prime iff its pre-sieved bit is set and no sieving prime crosses it off.
-/
import PsProofs.Wheel
import PsProofs.PreSieve
import PsProofs.SievePrinciple
import PsSpec.Primes
namespace Ps.Wheel
open Ps.PreSieve

/-- the numbers a stored sieving prime crosses off: p times the quotients its walk visits -/
def CrossedOff30 (stop p L n : Nat) : Prop :=
  ∃ s q1 j, addSievingPrime 30 8 Gen.wheel30Init stop p L = some s ∧ Denotes 30 L s q1 ∧
    max p ((L + 6) / p + 1) ≤ q1 ∧ p * (walk 30 j s q1).2 = n
def CrossedOff210 (stop p L n : Nat) : Prop :=
  ∃ s q1 j, addSievingPrime 210 48 Gen.wheel210Init stop p L = some s ∧ Denotes 210 L s q1 ∧
    max p ((L + 6) / p + 1) ≤ q1 ∧ p * (walk 210 j s q1).2 = n

theorem offs_eq : PreSieve.offs = Wheel.offs := rfl

theorem number_coprime_gt (L o b : Nat) (hL : L % 30 = 0) (hb : b < 8) :
    Nat.gcd (L + 30 * o + PreSieve.offs.getD b 0) 30 = 1 ∧ L + 6 < L + 30 * o + PreSieve.offs.getD b 0 := by
  rw [offs_eq]
  have h7 := (offs_bounds b hb).1
  refine ⟨?_, by omega⟩
  rw [show L + 30 * o + Wheel.offs.getD b 0 = Wheel.offs.getD b 0 + 30 * (L / 30 + o) by omega, Nat.gcd_add_mul_left_left]
  exact offs_coprime b hb

/-- what addSievingPrime (wrapping arithmetic) at a segment start L followed by the walk crosses off among L + 6 < n ≤ stop is
    exactly the p·q, q ≥ p coprime to M — for one (p, L) at a time: different primes may be added at different segment
    starts.  `CrossedOff30` and `CrossedOff210` are the left-hand side at `good30` and `good210`. -/
theorem Good.crossedOff_iff {M size : Nat} {init : List (Nat × Nat)} (hG : Good M size init) (stop p L n : Nat)
    (hp : Nat.gcd (p % 30) 30 = 1) (hp0 : 0 < p) (hp32 : p < 4294967296) (hL : L % 30 = 0) (hLn : L + 6 < n)
    (hns : n ≤ stop) (hstop : stop < U64) :
    (∃ s q1 j, addSievingPrime M size init stop p L = some s ∧ Denotes M L s q1 ∧
      max p ((L + 6) / p + 1) ≤ q1 ∧ p * (walk M j s q1).2 = n) ↔ ClearedBy M p n := by
  rw [addSievingPrime_eq_exact hG stop p L hp0 hp32 (by omega) hstop]
  constructor
  · -- a walk that reaches n exhibits n = p·x with x ≥ p coprime to the modulus
    rintro ⟨s, q1, j, -, hden, hq1, hpn⟩
    obtain ⟨hd, hle, -⟩ := walk_exact hG L j s q1 hden
    exact ⟨(walk M j s q1).2, by omega, hd.coprime hG, hpn.symm⟩
  · rintro ⟨x, hpx, hgx, rfl⟩
    have hq0 := quotient_ge_first p L x hp0 hpx hLn
    cases hr : addSievingPrimeExact M size init stop p L with
    | none => exact absurd (addSievingPrimeExact_none hG stop p L hr x hq0 hgx) (Nat.not_lt.mpr hns)
    | some s =>
      obtain ⟨q1, j, hd, hq1, hj, -⟩ := stored_reaches hG hp hp0 hL hr hq0 hgx
      exact ⟨s, q1, j, rfl, hd, hq1, by rw [hj]⟩

/-- the same for a sieving prime (163 < p, p² ≤ stop) routed to either wheel -/
theorem crossedOff_iff_routed (big : Nat → Bool) (stop p L' n : Nat) (hp : p.Prime) (h163 : 163 < p) (hpp : p * p ≤ stop)
    (hL' : L' % 30 = 0) (hLn : L' + 6 < n) (hns : n ≤ stop) (hstop : stop < U64) :
    (if big p then CrossedOff210 stop p L' n else CrossedOff30 stop p L' n) ↔
      ClearedBy (if big p then 210 else 30) p n := by
  have hc := Spec.prime_coprime30 hp (by omega)
  have h32 := lt_2_32_of_sq_lt hpp hstop
  cases big p
  · exact good30.crossedOff_iff stop p L' n hc hp.pos h32 hL' hLn hns hstop
  · exact good210.crossedOff_iff stop p L' n hc hp.pos h32 hL' hLn hns hstop

/-- the sieve principle for a number that has a bit: n = L + 30·o + offs[b] with 163 < n ≤ H is prime iff its pre-sieved bit is
    set and no prime p in (163, √H] has n among the multiples it clears on the wheel it is routed to -/
theorem number_prime_iff (big : Nat → Bool) (H L o b : Nat) (hL : L % 30 = 0) (hb : b < 8)
    (h163 : 163 < L + 30 * o + PreSieve.offs.getD b 0) (hnH : L + 30 * o + PreSieve.offs.getD b 0 ≤ H) :
    (L + 30 * o + PreSieve.offs.getD b 0).Prime ↔
      ((preSieveByte allTables L o).testBit b = true ∧
       ∀ p, p.Prime → 163 < p → p * p ≤ H →
         ¬ ClearedBy (if big p then 210 else 30) p (L + 30 * o + PreSieve.offs.getD b 0)) := by
  rw [sieve_principle (fun p => if big p then 210 else 30) (fun p => by cases big p <;> simp) _ H h163 hnH
    (number_coprime_gt L o b hL hb).1, ← preSieve_bit_iff L o b hL hb]

/-- **segment correctness at the level of numbers, general form**: `Lp p` is the segment start at which sieving prime p was
    added (any multiple of 30 not beyond the segment of n) and H ≥ n bounds the sieving primes that are needed (p² ≤ H).  Take any number n = L + 30·o + offs[b] of a segment starting at L (n > 163,
    n ≤ stop < 2^64).  Route every sieving prime p (163 < p, p² ≤ stop, hence p < 2^32) to the 30-wheel
    (EratSmall / EratMedium) or the 210-wheel (EratBig) in any way (`big p`).  Then n is prime iff its
    pre-sieved bit is 1 and no sieving prime crosses it off — where "crosses off" is what the REAL
    addSievingPrime (wrapping arithmetic, regenerated INIT tables) followed by walks over the REAL
    cross-off tables does. -/
theorem segment_number_correct_at (big : Nat → Bool) (Lp : Nat → Nat) (stop H L o b : Nat) (hL : L % 30 = 0) (hb : b < 8)
    (hLp : ∀ p, Lp p % 30 = 0 ∧ Lp p ≤ L)
    (h163 : 163 < L + 30 * o + PreSieve.offs.getD b 0) (hnH : L + 30 * o + PreSieve.offs.getD b 0 ≤ H) (hHs : H ≤ stop)
    (hstop : stop < U64) (hL6 : L + 6 < U64) :
    (L + 30 * o + PreSieve.offs.getD b 0).Prime ↔
      ((preSieveByte allTables L o).testBit b = true ∧
       ∀ p, p.Prime → 163 < p → p * p ≤ H →
         ¬ (if big p then CrossedOff210 stop p (Lp p) (L + 30 * o + PreSieve.offs.getD b 0)
            else CrossedOff30 stop p (Lp p) (L + 30 * o + PreSieve.offs.getD b 0))) := by
  have hL7 := (number_coprime_gt L o b hL hb).2
  rw [number_prime_iff big H L o b hL hb h163 hnH]
  refine and_congr_right fun _ => forall_congr' fun p => forall_congr' fun hp => forall_congr' fun h163p =>
    forall_congr' fun hpp => not_congr ?_
  exact (crossedOff_iff_routed big stop p (Lp p) _ hp h163p (Nat.le_trans hpp hHs) (hLp p).1
    (by have := (hLp p).2; omega) (Nat.le_trans hnH hHs) hstop).symm

/-- the special case in which every sieving prime is added at the segment of n itself and H = stop -/
theorem segment_number_correct (big : Nat → Bool) (stop L o b : Nat) (hL : L % 30 = 0) (hb : b < 8)
    (h163 : 163 < L + 30 * o + PreSieve.offs.getD b 0) (hns : L + 30 * o + PreSieve.offs.getD b 0 ≤ stop)
    (hstop : stop < U64) (hL6 : L + 6 < U64) :
    (L + 30 * o + PreSieve.offs.getD b 0).Prime ↔
      ((preSieveByte allTables L o).testBit b = true ∧
       ∀ p, p.Prime → 163 < p → p * p ≤ stop →
         ¬ (if big p then CrossedOff210 stop p L (L + 30 * o + PreSieve.offs.getD b 0)
            else CrossedOff30 stop p L (L + 30 * o + PreSieve.offs.getD b 0))) :=
  segment_number_correct_at big (fun _ => L) stop stop L o b hL hb (fun _ => ⟨hL, Nat.le_refl _⟩) h163 hns (Nat.le_refl _) hstop hL6

end Ps.Wheel
