/-
  PsProofs.Parallel — the pieces of ParallelSieve tile [start, stop] and their interior boundaries
  lie at n % 30 = 2, n ≥ 32 (in exact arithmetic: `pieceN`; the 64-bit computation agrees with it,
  `piece_eq_pieceN`).  Hence whatever is additive at such boundaries adds up over the pieces
  (`sum_pieceN`).
-/
import PsModel.Parallel

namespace Ps

/-- `align` without saturation -/
def alignN (stop n : Nat) : Nat := if n + 32 ≥ stop then stop else n + 32 - n % 30

/-- the i-th piece in exact arithmetic -/
def pieceN (start stop td i : Nat) : Nat × Nat :=
  (if i = 0 then start else alignN stop (start + td * i) + 1, alignN stop (start + td * (i + 1)))

theorem align_eq_alignN {stop n : Nat} (hs : stop ≤ umax) : align stop n = alignN stop n := by
  unfold align alignN
  simp only [checkedAdd_eq, Nat.min_def]
  split <;> split <;> omega

theorem alignN_le_stop (stop n : Nat) : alignN stop n ≤ stop := by
  unfold alignN; split <;> omega

theorem alignN_interior {stop n : Nat} (h : alignN stop n < stop) :
    alignN stop n % 30 = 2 ∧ n + 3 ≤ alignN stop n := by
  unfold alignN at h ⊢
  split
  · rename_i hc; rw [if_pos hc] at h; omega
  · omega

theorem alignN_mono (stop : Nat) {n n' : Nat} (h : n ≤ n') : alignN stop n ≤ alignN stop n' := by
  unfold alignN
  split <;> split <;> omega

theorem le_alignN {stop n lo : Nat} (h1 : lo ≤ n) (h2 : lo ≤ stop) : lo ≤ alignN stop n := by
  unfold alignN; split <;> omega

/-- a saturated argument aligns like the exact one: beyond 2^64 - 33 everything aligns to `stop` -/
theorem alignN_min_umax {stop : Nat} (hs : stop ≤ umax) (n : Nat) :
    alignN stop (min n umax) = alignN stop n := by
  rcases Nat.le_total n umax with h | h
  · rw [Nat.min_eq_left h]
  · rw [Nat.min_eq_right h, alignN, alignN, if_pos (by omega), if_pos (by omega)]

theorem getThreadDistance_shape (start stop threads minDist : Nat) :
    getThreadDistance start stop threads minDist % 30 = 0 ∧
    30 ≤ getThreadDistance start stop threads minDist := by
  unfold getThreadDistance
  simp only
  omega

theorem piece_offset_le {start stop td i : Nat} (hi : i < numPieces start stop td) :
    td * i ≤ stop - start - 1 := by
  unfold numPieces at hi
  calc td * i ≤ td * ((stop - start - 1) / td) := Nat.mul_le_mul_left _ (Nat.le_of_lt_succ hi)
    _ ≤ stop - start - 1 := Nat.mul_div_le _ _

theorem piece_offset_last (start stop : Nat) {td : Nat} (htd : 0 < td) :
    stop ≤ start + td * numPieces start stop td := by
  unfold numPieces
  have := Nat.lt_mul_div_succ (stop - start - 1) htd
  have e : td * ((stop - start - 1) / td + 1) = td * ((stop - start - 1) / td) + td := Nat.mul_succ _ _
  omega

theorem pieceN_chain (start stop td i : Nat) :
    (pieceN start stop td (i + 1)).1 = (pieceN start stop td i).2 + 1 := by
  simp [pieceN]

theorem pieceN_first (start stop td : Nat) : (pieceN start stop td 0).1 = start := by
  simp [pieceN]

theorem pieceN_last (start stop : Nat) {td : Nat} (htd : 0 < td) :
    (pieceN start stop td (numPieces start stop td - 1)).2 = stop := by
  have hN : 0 < numPieces start stop td := Nat.succ_pos _
  have := piece_offset_last start stop htd
  simp only [pieceN]
  rw [Nat.sub_add_cancel hN]
  unfold alignN; split <;> omega

/-- a piece may be empty (lo = hi + 1), never negative -/
theorem pieceN_ordered (start stop td i : Nat) (hs : start ≤ stop) :
    (pieceN start stop td i).1 ≤ (pieceN start stop td i).2 + 1 := by
  simp only [pieceN]
  split
  · exact Nat.le_succ_of_le (le_alignN (Nat.le_add_right _ _) hs)
  · exact Nat.succ_le_succ (alignN_mono stop (Nat.add_le_add_left (Nat.mul_le_mul_left td (Nat.le_succ i)) start))

theorem pieceN_boundary (start stop td i : Nat) (htd : 30 ≤ td)
    (h : (pieceN start stop td i).2 < stop) :
    (pieceN start stop td i).2 % 30 = 2 ∧ 32 ≤ (pieceN start stop td i).2 := by
  simp only [pieceN] at *
  obtain ⟨hmod, hge⟩ := alignN_interior h
  have : td ≤ td * (i + 1) := Nat.le_mul_of_pos_right _ (by omega)
  exact ⟨hmod, by omega⟩

/-- the model's wrapping 64-bit computation agrees with exact arithmetic, provided
    `align(start + td·i) + 1` does not wrap (it can only wrap for stop = 2^64-1) -/
theorem piece_eq_pieceN {start stop td i : Nat} (hle : start ≤ stop) (hs : stop ≤ umax)
    (htd : 0 < td) (hi : i < numPieces start stop td)
    (hnw : stop < umax ∨ start + td * i + 32 < stop ∨ i = 0) :
    piece start stop td i = pieceN start stop td i := by
  have hoff := piece_offset_le hi
  have hU := U64_eq_succ
  unfold piece pieceN
  simp only [mul64_of_lt (show td * i < U64 by omega), add64_of_lt (show start + td * i < U64 by omega),
    align_eq_alignN hs, checkedAdd_eq, alignN_min_umax hs, Nat.mul_succ, ← Nat.add_assoc]
  congr 1
  by_cases h0 : i = 0
  · subst h0; simp
  · have : 0 < td * i := Nat.mul_pos htd (Nat.pos_of_ne_zero h0)
    rw [if_pos (by omega), if_neg h0]
    apply add64_of_lt
    have := alignN_le_stop stop (start + td * i)
    rcases hnw with h | h | h
    · omega
    · have : alignN stop (start + td * i) < stop := by unfold alignN; split <;> omega
      omega
    · exact absurd h h0

/-- `hempty`: the pieces after the one that reaches `stop` are empty -/
theorem sum_pieceN (f : Nat → Nat → Nat) {start stop td : Nat} (hle : start ≤ stop) (htd : 30 ≤ td)
    (hsplit : ∀ b hi, b % 30 = 2 → 32 ≤ b → start ≤ b + 1 → b ≤ hi →
      f start b + f (b + 1) hi = f start hi)
    (hempty : ∀ b, f (b + 1) b = 0) :
    ((List.range (numPieces start stop td)).map
      (fun i => f (pieceN start stop td i).1 (pieceN start stop td i).2)).sum = f start stop := by
  have key : ∀ k, ((List.range (k + 1)).map
      (fun i => f (pieceN start stop td i).1 (pieceN start stop td i).2)).sum =
        f start (pieceN start stop td k).2 := by
    intro k
    induction k with
    | zero => simp [pieceN_first]
    | succ k ih =>
      rw [List.range_succ, List.map_append, List.sum_append, ih, List.map_singleton, List.sum_singleton,
        pieceN_chain]
      have hord := pieceN_ordered start stop td (k + 1) hle
      rw [pieceN_chain] at hord
      have hend : (pieceN start stop td (k + 1)).2 ≤ stop := alignN_le_stop _ _
      by_cases hb : (pieceN start stop td k).2 < stop
      · obtain ⟨hb2, hb32⟩ := pieceN_boundary start stop td k htd hb
        have : start ≤ (pieceN start stop td k).2 := le_alignN (Nat.le_add_right _ _) hle
        exact hsplit _ _ hb2 hb32 (by omega) (by omega)
      · have e1 : (pieceN start stop td k).2 = stop := Nat.le_antisymm (alignN_le_stop _ _) (Nat.le_of_not_lt hb)
        have e2 : (pieceN start stop td (k + 1)).2 = stop := by omega
        rw [e1, e2, hempty]; rfl
  have hN : numPieces start stop td = (numPieces start stop td - 1) + 1 :=
    (Nat.sub_add_cancel (Nat.succ_pos _)).symm
  rw [hN, key, pieceN_last start stop (by omega)]

end Ps
