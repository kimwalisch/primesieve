/-
  PsProofs.Store — the block loops of store_primes and store_n_primes over the iterator model: what has
  been stored and what the buffer holds are, together, the primes from `start` on (`BInv`).
-/
import PsProofs.IterSim
import PsProofs.PrimeSeq
import PsProofs.MaxPrime
import PsModel.Store
namespace Ps
open Ps.Spec

theorem storeMaxPrime_eq : storeMaxPrime = maxPrime64 := rfl

/-- invariant of the block loops of store_primes and store_n_primes: `acc` holds the primes of
    [start, c) and the buffer begins with the first prime ≥ c -/
structure BInv (start : Nat) (it : Iter) (acc : List Nat) (c : Nat) : Prop where
  inv : AtInv it
  acc_eq : acc = primesHO start c
  le : start ≤ c
  head : it.buf.getD 0 0 = nextPrime c

variable {env : Env} {start n c rem : Nat} {it : Iter} {acc : List Nat}

theorem BInv.buf_eq (h : BInv start it acc c) :
    it.buf = primesHO c (it.buf.getD (it.size - 1) 0 + 1) ∧ c ≤ it.buf.getD 0 0 ∧
      it.buf.getD 0 0 ≤ it.buf.getD (it.size - 1) 0 := by
  obtain ⟨hne, hsz⟩ := atInv_buf h.inv
  have e := consec_eq_primesHO it.buf c hne h.inv.consec h.head
  rw [← hsz] at e
  have hm : it.buf.getD 0 0 ∈ primesHO c (it.buf.getD (it.size - 1) 0 + 1) := by
    rw [← e]; exact getD_mem (List.length_pos_iff.2 hne)
  exact ⟨e, (mem_primesHO.1 hm).1, Nat.le_of_lt_succ (mem_primesHO.1 hm).2.1⟩

theorem BInv.all (h : BInv start it acc c) :
    acc ++ it.buf = primesHO start (it.buf.getD (it.size - 1) 0 + 1) := by
  obtain ⟨hbuf, h1, h2⟩ := h.buf_eq
  rw [h.acc_eq]
  conv => lhs; rw [hbuf]
  exact primesHO_append h.le (Nat.le_succ_of_le (Nat.le_trans h1 h2))

/-- first `generate_next_primes()` of a fresh iterator(start, hint) -/
theorem BInv.fresh (h : EnvOK env) (k start hint : Nat) (hs : start ≤ umax) :
    match (Iter.mk' start hint).generateNext env k with
    | .error e => e = .overflow ∧ U64 ≤ nextPrime start
    | .ok it => BInv start it [] start := by
  have hp : NextPost (nextPrime start) hint ((Iter.mk' start hint).generateNext env k) :=
    genNextFresh_spec h k (Iter.mk' start hint) hs
  cases hr : (Iter.mk' start hint).generateNext env k with
  | error e => rw [hr] at hp; exact ⟨hp.1, Nat.le_of_not_lt hp.2⟩
  | ok it =>
    rw [hr] at hp
    obtain ⟨-, -, hhead, hinv, -⟩ := hp
    exact ⟨hinv, (primesHO_nil_of_le (Nat.le_refl _)).symm, Nat.le_refl _, hhead⟩

/-- every further `generate_next_primes()`: the block held so far joins `acc` -/
theorem BInv.step (h : EnvOK env) (hb : BInv start it acc c) (k : Nat) :
    match it.generateNext env k with
    | .error e => e = .overflow ∧ ¬ nextPrime (it.buf.getD (it.size - 1) 0 + 1) < U64
    | .ok it' => nextPrime (it.buf.getD (it.size - 1) 0 + 1) < U64 ∧
        BInv start it' (acc ++ it.buf) (it.buf.getD (it.size - 1) 0 + 1) := by
  have hg := generateNext_at h k it hb.inv
  cases hr : it.generateNext env k with
  | error e => rw [hr] at hg; exact hg
  | ok it' =>
    rw [hr] at hg
    obtain ⟨hlt, -, hhead, hinv, -⟩ := hg
    exact ⟨hlt, hinv, hb.all, Nat.le_succ_of_le (Nat.le_trans hb.le (Nat.le_trans hb.buf_eq.2.1 hb.buf_eq.2.2)), hhead⟩

/-- what `store_primes` keeps of a block that reaches beyond `m`: together with `acc`, the primes up to `m` -/
theorem BInv.upTo (h : BInv start it acc c) {m : Nat} (hc : c ≤ m + 1) (hm : m < it.buf.getD (it.size - 1) 0) :
    acc ++ it.buf.takeWhile (· ≤ m) = primesHO start (m + 1) := by
  conv => lhs; rw [h.buf_eq.1]
  rw [takeWhile_primesHO _ (by omega), h.acc_eq, primesHO_append h.le hc]

/-- below the largest prime no refill fails; each refill raises buf[0], so `limit + 2 - buf[0]` refills
    are enough -/
theorem storeBlocks_spec (h : EnvOK env) (limit : Nat) (kf : Nat → Nat) (hlim : limit < maxPrime64) :
    ∀ (fuel j : Nat) {it : Iter} {acc : List Nat} {c : Nat}, BInv start it acc c →
      1 ≤ fuel → limit + 2 ≤ fuel + it.buf.getD 0 0 → c ≤ limit + 1 →
      ∃ it' acc', storeBlocks env limit kf fuel j it acc = some (.ok it', acc') ∧
        acc' ++ it'.buf.takeWhile (· ≤ limit) = primesHO start (limit + 1)
  | 0, _, _, _, _, _, h1, _, _ => absurd h1 (by decide)
  | f + 1, j, it, acc, c, hb, _, hf, hcl => by
    unfold storeBlocks
    split
    · have hs := hb.step h (kf j)
      cases hr : it.generateNext env (kf j) with
      | error e =>
        rw [hr] at hs
        exact absurd (nextPrime_lt_U64_iff.2 (by omega)) hs.2
      | ok it' =>
        rw [hr] at hs
        have := le_nextPrime (it.buf.getD (it.size - 1) 0 + 1)
        rw [← hs.2.head] at this
        have := hb.buf_eq.2.2
        exact storeBlocks_spec h limit kf hlim f (j + 1) hs.2 (by omega) (by omega) (by omega)
    · exact ⟨it, acc, rfl, hb.upTo hcl (by omega)⟩

theorem primesHO_top {stop : Nat} (h1 : maxPrime64 ≤ stop) (h2 : stop ≤ umax) :
    primesHO maxPrime64 (stop + 1) = [maxPrime64] := by
  rw [primesHO_eq_cons, nextPrime_of_prime maxPrime64_prime, if_pos (by omega), primesHO_eq_cons, if_neg]
  exact fun hlt => absurd (nextPrime_lt_U64_iff.1 (Nat.lt_of_lt_of_le hlt (by rw [U64_eq_succ]; omega)))
    (Nat.not_succ_le_self _)

theorem BInv.all_eq_firstN (h : BInv start it acc c) : acc ++ it.buf = firstN start (acc.length + it.size) := by
  have := (primesHO_eq_firstN start (it.buf.getD (it.size - 1) 0 + 1)).1
  rwa [← h.all, List.length_append, ← h.inv.size_eq] at this

theorem BInv.buf_getD (h : BInv start it acc c) {j : Nat} (hj : j < it.size) :
    it.buf.getD j 0 = primeSeq start (acc.length + j) ∧ primeSeq start (acc.length + j) < U64 := by
  have hj' : j < it.buf.length := h.inv.size_eq ▸ hj
  have e := firstN_append_getD h.all_eq_firstN hj'
  exact ⟨e, by rw [← e, U64_eq_succ]; exact Nat.lt_succ_of_le (h.inv.getD_le hj)⟩

/-- invariant of the loop of store_n_primes: `rem` primes are still to be stored -/
structure NInv (start n : Nat) (it : Iter) (acc : List Nat) (c rem : Nat) : Prop where
  b : BInv start it acc c
  cnt : acc.length + rem = n
  pos : 1 ≤ rem

theorem NInv.stored (h : NInv start n it acc c rem) : ∃ k, k < n ∧ acc = firstN start k :=
  ⟨acc.length, by have := h.cnt; have := h.pos; omega, firstN_prefix h.b.all_eq_firstN⟩

/-- when the buffer reaches the last requested prime, it is the element of index `rem - 1` -/
theorem NInv.last (h : NInv start n it acc c rem) (hr : rem ≤ it.size) :
    it.buf.getD (rem - 1) 0 = primeSeq start (n - 1) ∧ primeSeq start (n - 1) < U64 := by
  have := h.b.buf_getD (j := rem - 1) (by have := h.pos; omega)
  rwa [show acc.length + (rem - 1) = n - 1 by have := h.cnt; have := h.pos; omega] at this

theorem NInv.take (h : NInv start n it acc c rem) (hr : rem ≤ it.size) :
    acc ++ it.buf.take rem = firstN start n := by
  have hsz := h.b.inv.size_eq
  have := congrArg (List.take (acc.length + rem)) h.b.all_eq_firstN
  rwa [List.take_append, List.take_of_length_le (by omega), Nat.add_sub_cancel_left,
    firstN_take _ _ _ (by omega), h.cnt] at this

theorem storeNBlocks_spec (h : EnvOK env) (start n vmax : Nat) (kf : Nat → Nat) :
    ∀ (fuel j rem : Nat) (it : Iter) (acc : List Nat) (c : Nat), NInv start n it acc c rem → rem ≤ fuel →
      ∃ r, storeNBlocks env vmax kf fuel j rem it acc = some r ∧
        match r with
        | .error (acc', _) => (∃ k, k < n ∧ acc' = firstN start k) ∧
            ¬ (primeSeq start (n - 1) ≤ vmax ∧ primeSeq start (n - 1) < U64)
        | .ok (rem', it', acc') =>
            (rem' = 0 ∧ acc' = firstN start n ∧ primeSeq start (n - 1) ≤ vmax ∧ primeSeq start (n - 1) < U64) ∨
            (rem' < it'.size ∧ ∃ c', NInv start n it' acc' c' rem')
  | 0, _, _, _, _, _, hi, hf => absurd hi.pos (by omega)
  | f + 1, j, rem, it, acc, c, hi, hf => by
    have hall := hi.b.all_eq_firstN
    have hsz := hi.b.inv.size_eq
    have hpos : 1 ≤ it.size := Nat.succ_le_of_lt (Nat.zero_lt_of_lt hi.b.inv.i_lt)
    have hcnt := hi.cnt
    unfold storeNBlocks
    split
    · -- the whole block is wanted; its last element is the prime of index acc.length + it.size - 1
      obtain ⟨hlast, hlt⟩ := hi.b.buf_getD (j := it.size - 1) (by omega)
      have hmono : ∀ {i}, i ≤ n - 1 → primeSeq start i ≤ primeSeq start (n - 1) := primeSeq_mono start
      split
      · refine ⟨_, rfl, hi.stored, fun hc => ?_⟩
        have := hmono (i := acc.length + (it.size - 1)) (by omega)
        omega
      · simp only
        split
        · have e : acc.length + (it.size - 1) = n - 1 := by omega
          rw [e] at hlast hlt
          exact ⟨_, rfl, Or.inl ⟨rfl, by rw [hall]; congr 1; omega, by omega, hlt⟩⟩
        · have hs := hi.b.step h (kf j)
          cases hr : it.generateNext env (kf j) with
          | error e =>
            rw [hr] at hs
            refine ⟨_, rfl, ⟨acc.length + it.size, by omega, hall⟩, fun hc => hs.2 ?_⟩
            -- the prime after the block is among the requested ones
            have := hmono (i := acc.length + (it.size - 1) + 1) (by omega)
            rw [primeSeq_succ, ← hlast] at this
            omega
          | ok it' =>
            rw [hr] at hs
            exact storeNBlocks_spec h start n vmax kf f (j + 1) _ it' _ _
              ⟨hs.2, by rw [List.length_append, ← hsz]; omega, by omega⟩ (by omega)
    · exact ⟨_, rfl, Or.inr ⟨by omega, c, hi⟩⟩

end Ps
