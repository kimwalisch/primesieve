/-
  PsProofs.MaxPrime — 18446744073709551557 is the largest prime below 2^64.
  Lucas/Pratt certificate (two levels) checked by the kernel through Mathlib's
  `lucas_primality` and the `reduce_mod_char` modular-exponentiation evaluator
  (no native_decide), plus an explicit factor for each of the 58 numbers above it.
-/
import Mathlib.NumberTheory.LucasPrimality
import Mathlib.Tactic.ReduceModChar
import Mathlib.Tactic.NormNum.Prime
import PsModel.Basic
import PsSpec.Primes
namespace Ps

/-- Lucas test with the prime factorisation of `p - 1` given as a list -/
theorem lucas_of_factors (p : ℕ) (a : ZMod p) (L : List ℕ) (hL : ∀ r ∈ L, r.Prime) (hprod : L.prod = p - 1)
    (ha : a ^ (p - 1) = 1) (hq : ∀ q ∈ L, a ^ ((p - 1) / q) ≠ 1) : p.Prime :=
  lucas_primality p a ha fun q hp hd => hq q <|
    mem_list_primes_of_dvd_prod (Nat.prime_iff.1 hp) (fun r hr => Nat.prime_iff.1 (hL r hr)) (hprod ▸ hd)

theorem prime_5594472617641 : Nat.Prime 5594472617641 := by
  refine lucas_of_factors 5594472617641 13 [2, 2, 2, 3, 5, 1427, 2131, 15331] ?_ (by norm_num) (by reduce_mod_char) ?_
  · simp only [List.forall_mem_cons, List.not_mem_nil, false_imp_iff, implies_true, and_true]
    norm_num
  · simp only [List.forall_mem_cons, List.not_mem_nil, false_imp_iff, implies_true, and_true]
    refine ⟨?_, ?_, ?_, ?_, ?_, ?_, ?_, ?_⟩ <;> reduce_mod_char <;> decide

/-- the largest 64-bit prime -/
def maxPrime64 : ℕ := 18446744073709551557

theorem maxPrime64_prime : Nat.Prime maxPrime64 := by
  refine lucas_of_factors 18446744073709551557 2 [2, 2, 11, 137, 547, 5594472617641] ?_ (by norm_num) (by reduce_mod_char) ?_
  · simp only [List.forall_mem_cons, List.not_mem_nil, false_imp_iff, implies_true, and_true]
    exact ⟨by norm_num, by norm_num, by norm_num, by norm_num, by norm_num, prime_5594472617641⟩
  · simp only [List.forall_mem_cons, List.not_mem_nil, false_imp_iff, implies_true, and_true]
    refine ⟨?_, ?_, ?_, ?_, ?_, ?_⟩ <;> reduce_mod_char <;> decide

/-- a proper divisor of `maxPrime64 + 1 + k` for k = 0 … 57 -/
def factorsAbove : List ℕ :=
  [2, 41, 2, 3, 2, 29, 2, 5, 2, 3, 2, 31, 2, 11071, 2, 3, 2, 5, 2, 139646831, 2, 3, 2, 17, 2, 827, 2, 3, 2, 13,
   2, 11, 2, 3, 2, 7, 2, 5, 2, 3, 2, 19, 2, 53, 2, 3, 2, 5, 2, 7, 2, 3, 2, 11, 2, 13, 2, 3]

theorem factorsAbove_ok : ∀ k, k < 58 →
    factorsAbove.getD k 0 ∣ maxPrime64 + 1 + k ∧ 2 ≤ factorsAbove.getD k 0 ∧ factorsAbove.getD k 0 < maxPrime64 := by
  decide +kernel

/-- there is no prime in (maxPrime64, 2^64) -/
theorem no_prime_above (n : ℕ) (h1 : maxPrime64 < n) (h2 : n < U64) : ¬ n.Prime := by
  obtain ⟨k, rfl⟩ : ∃ k, n = maxPrime64 + 1 + k := ⟨n - (maxPrime64 + 1), by omega⟩
  obtain ⟨hd, h2, hlt⟩ := factorsAbove_ok k (by unfold maxPrime64 U64 at h2; omega)
  exact Nat.not_prime_of_dvd_of_lt hd h2 (by omega)

theorem maxPrime64_lt_U64 : maxPrime64 < U64 := by decide

theorem nextPrime_lt_U64_iff {x : ℕ} : Spec.nextPrime x < U64 ↔ x ≤ maxPrime64 := by
  constructor
  · intro h
    by_contra hx
    exact no_prime_above _ (Nat.lt_of_lt_of_le (Nat.lt_of_not_le hx) (Spec.le_nextPrime x)) h
      (Spec.nextPrime_prime x)
  · exact fun h => Nat.lt_of_le_of_lt (Spec.nextPrime_min h maxPrime64_prime) maxPrime64_lt_U64

end Ps
