/-
  PsProofs.Cli — invariants of the command-line model: every collected number lies below 2^64; a
  value accepted at uint64_t is the exact value of its expression; START+DIST cannot wrap; n*20
  fits int64.
-/
import PsProofs.Calc
import PsModel.CmdLine
namespace Ps.Cli
open Ps.Calc

theorem getValue_u64 (o : Opt) : OkSim u64.InR (getValue u64 o) (eval (Arith.exact u64) o.val) := by
  intro v h
  unfold getValue at h
  split at h
  · next w hw => cases h; exact eval_sim sim_u64 _ _ hw
  · cases h

def NumbersOK (o : Opts) : Prop := ∀ x ∈ o.numbers, x ≤ 18446744073709551615

theorem getValue_ok {t : Ty} {o : Opt} {v : Int} (_ : getValue t o = .ok v) : True := trivial

theorem headD_le {l : List Nat} {m : Nat} (h : ∀ x ∈ l, x ≤ m) : l.headD 0 ≤ m := by
  cases l with
  | nil => exact Nat.zero_le _
  | cons a l => exact h a List.mem_cons_self

theorem NumbersOK.push {o : Opts} (h : NumbersOK o) {x : Nat} (hx : x ≤ 18446744073709551615) :
    NumbersOK { o with numbers := o.numbers ++ [x] } := by
  intro y hy
  rcases List.mem_append.mp hy with hy | hy
  · exact h y hy
  · exact List.mem_singleton.mp hy ▸ hx

theorem optionDistance_ok (opts : Opts) (o : Opt) (hn : NumbersOK opts) :
    OkPost (fun opts' => ∃ v : Int, eval (Arith.exact u64) o.val = .ok v ∧ 0 ≤ v ∧
      opts'.numbers = opts.numbers ++ [opts.numbers.headD 0 + v.toNat] ∧
      opts.numbers.headD 0 + v.toNat ≤ 18446744073709551615 ∧
      opts'.flags = opts.flags ∧ opts'.option = opts.option) (optionDistance opts o) := by
  unfold optionDistance
  exact .bind (getValue_u64 o).toPost fun v hv => .ite (fun _ => .error) fun hc =>
    .ok ⟨v, hv.1, hv.2.1, rfl, by have := headD_le hn; omega, rfl, rfl⟩

theorem setMainOption_numbers (opts : Opts) (id str : String) (hn : NumbersOK opts) :
    OkPost NumbersOK (setMainOption opts id str) := by
  unfold setMainOption
  exact .ite (fun _ => .error) fun _ => .ok hn

/-- only `-d` and a bare number add a number -/
theorem handle_numbers (opts : Opts) (o : Opt) (hn : NumbersOK opts) :
    OkPost NumbersOK (handle opts o) := by
  unfold handle
  split
  · exact .error
  · refine .ite (fun _ => ?count) fun _ => .ite (fun _ => ?dist) fun _ => .ite (fun _ => ?print) fun _ =>
      .ite (fun _ => ?stress) fun _ => .ite (fun _ => ?timeout) fun _ =>
      .ite (fun _ => .bind (.refl _) fun _ _ => .ok hn) fun _ =>
      .ite (fun _ => .bind (.refl _) fun _ _ => .ok hn) fun _ =>
      .ite (fun _ => .ok hn) fun _ => .ite (fun _ => .ok hn) fun _ => .ite (fun _ => .ok hn) fun _ =>
      .ite (fun _ => .bind (getValue_u64 o).toPost fun v hv => .ok (hn.push (by have := (u64_InR v).mp hv.2; omega))) fun _ =>
      setMainOption_numbers _ _ _ hn
    case count =>
      unfold optionCount
      refine .bind (.refl _) fun n _ => .ite (fun _ => .error) fun _ => ?_
      split
      · exact .ok hn
      · exact .error
    case dist =>
      exact (optionDistance_ok opts o hn).mono fun opts' ⟨v, _, _, hnum, hle, _⟩ x hx =>
        hn.push hle x (hnum ▸ hx)
    case print =>
      unfold optionPrint
      exact .bind (.refl _) fun v _ => .ite (fun _ => .ok hn) fun _ => .error
    case stress =>
      unfold optionStressTest
      exact .bind (setMainOption_numbers _ _ _ hn) fun _ h' => .ite (fun _ => .ok h') fun _ => .error
    case timeout =>
      unfold optionTimeout
      exact .bind (.refl _) fun _ _ => .ok hn

theorem parseLoop_numbers (argv : Array String) : ∀ fuel i {opts}, NumbersOK opts →
    OkPost NumbersOK (parseLoop argv fuel i opts)
  | 0, _, _, hn => .ok hn
  | fuel + 1, _, _, hn => by
    unfold parseLoop
    exact .ite (fun _ => .bind (.refl _) fun (_, _) _ => .bind (handle_numbers _ _ hn) fun _ hn' =>
      parseLoop_numbers argv fuel _ hn') fun _ => .ok hn

theorem parseOptions_numbers (argv : List String) : OkPost NumbersOK (parseOptions argv) := by
  unfold parseOptions
  refine .bind (parseLoop_numbers _ _ _ (fun _ h => nomatch h)) fun o ho => .ok ?_
  split <;> split <;> exact ho

/-- what is asked of the action main() takes: the interval / n it works on lies below 2^64; n·20 fits int64 -/
def Action.InRange : Action → Prop
  | .sieve a b _ _ _ _ _ => a ≤ 18446744073709551615 ∧ b ≤ 18446744073709551615
  | .nth n st _ _ => n * 20 ≤ 9223372036854775807 ∧ st ≤ 18446744073709551615
  | _ => True

theorem mainAction_inRange (argv : List String) : (mainAction argv).InRange := by
  unfold mainAction
  split
  · trivial
  split
  · trivial
  next o hp =>
  have hn : ∀ x ∈ o.numbers, x ≤ 18446744073709551615 := (parseOptions_numbers argv o hp).2
  split
  · split
    · trivial
    next n rest hnum =>
    rw [hnum] at hn
    split
    · trivial
    · exact ⟨by unfold int64MaxDiv20 at *; omega, headD_le fun x hx => hn x (List.mem_cons_of_mem _ hx)⟩
  split
  · split
    · trivial
    · next stop hnum => exact ⟨Nat.zero_le _, hn stop (hnum ▸ List.mem_cons_self)⟩
    · next start stop _ hnum =>
      rw [hnum] at hn
      exact ⟨hn start List.mem_cons_self, hn stop (List.mem_cons_of_mem _ List.mem_cons_self)⟩
  split <;> trivial

end Ps.Cli
