/-
  PsProofs.CountSieve — CountPrintPrimes over the ideal sieve prints / counts exactly the primes
  and constellations of [max(start,7), stop]; PrimeSieve::sieve adds the small ones;
  ParallelSieve::sieve adds up the pieces.

  In the sieve part a counter is the length of what would be printed (`sieveCounts_eq_length`), so
  its counts follow from its lists; the small part is counted from the table (`smallRows_eq`).
  Counter 0 is treated as the counter of the one-element pattern [0] (`pats`).
-/
import PsProofs.ByteSieve
import PsProofs.Parallel
namespace Ps
open Ps.Spec

open Classical in
theorem sievePrimeNumbers_eq {isP : Nat → Bool} (hP : ∀ n, isP n = true ↔ n.Prime) (start stop : Nat) :
    sievePrimeNumbers isP start stop = primesIn (max start 7) stop := by
  unfold sievePrimeNumbers
  split
  · rename_i h; rw [primesIn, primesHO_nil_of_le h]
  · rename_i h
    rw [sieve_flatMap byteNumbers
        (fun n => if decide (max start 7 ≤ n ∧ n ≤ stop ∧ n.Prime) then [n] else []) isP (Nat.le_of_not_lt h)
        (fun base m hB => by rw [byteNumbers_ideal hP _ _ _ _ hB, filter_eq_flatMap])
        (fun x hx => if_neg (by rw [decide_eq_true_eq]; omega)),
      ← filter_eq_flatMap]
    unfold primesIn primesHO
    apply List.filter_congr
    intro x hx
    have := List.mem_range'_1.1 hx
    rw [Bool.eq_iff_iff, decide_eq_true_eq, decide_eq_true_eq]
    exact ⟨fun h => h.2.2, fun h => ⟨this.1, by omega, h⟩⟩

open Classical in
theorem sieveTuplets_eq {isP : Nat → Bool} (hP : ∀ n, isP n = true ↔ n.Prime) (start stop kind : Nat)
    (hk6 : kind < 6) :
    sieveTuplets isP start stop kind = tupletList kind (max start 7) stop := by
  unfold sieveTuplets
  split
  · rename_i h; rw [tupletList_empty kind h]
  · rename_i h
    rw [sieve_flatMap (byteTuplets (Gen.bitmasks.getD kind [])) _ isP (Nat.le_of_not_lt h)
        (fun base m hB => byteTuplets_ideal hP _ _ base m kind hB hk6)]
    · unfold tupletList
      apply List.flatMap_congr
      intro p hp
      have := List.mem_range'_1.1 hp
      congr 1
      apply List.filter_congr
      intro ds _
      rw [Bool.eq_iff_iff, decide_eq_true_eq, decide_eq_true_eq]
      exact ⟨fun h => h.2, fun h => ⟨this.1, h⟩⟩
    · intro x hx
      rw [List.map_eq_nil_iff, List.filter_eq_nil_iff]
      intro ds _
      rw [decide_eq_true_eq]
      omega

theorem getD_map_range (g : Nat → Nat) {i n : Nat} (h : i < n) :
    ((List.range n).map g).getD i 0 = g i := by
  simp [List.getD_eq_getElem?_getD, h]

theorem getD_replicate_zero (n i : Nat) : (List.replicate n 0).getD i 0 = 0 := by
  rw [List.getD_eq_getElem?_getD, List.getElem?_replicate]
  split <;> rfl

/-- a counter of CountPrintPrimes is the length of what it would print -/
theorem sieveCounts_eq_length (isP : Nat → Bool) (start stop flags : Nat) {i : Nat} (hi : i < 6)
    (hf : isFlag flags (2 ^ i) = true) :
    (sieveCounts isP start stop flags).getD i 0 =
      if i = 0 then (sievePrimeNumbers isP start stop).length else (sieveTuplets isP start stop i).length := by
  unfold sieveCounts sievePrimeNumbers sieveTuplets
  split
  · rw [getD_replicate_zero]; split <;> rfl
  · simp only
    rw [getD_map_range _ hi]
    simp only [hf, Bool.not_true, Bool.false_eq_true, if_false, sieveBytes, byteCount, List.map_map,
      List.length_flatten, Function.comp_def]
    split
    · simp only [length_byteNumbers]
    · simp only [length_byteTuplets]

theorem sieveCounts_spec {isP : Nat → Bool} (hP : ∀ n, isP n = true ↔ n.Prime) (start stop flags i : Nat)
    (hi : i < 6) (hf : isFlag flags (2 ^ i) = true) :
    (sieveCounts isP start stop flags).getD i 0 = kindCount i (max start 7) stop := by
  rw [sieveCounts_eq_length isP start stop flags hi hf]
  split
  · rename_i hi0
    rw [sievePrimeNumbers_eq hP, primesIn_length, hi0, kindCount_zero]
  · rename_i hi0
    rw [sieveTuplets_eq hP start stop i hi, tupletList_length, kindCount_pos hi0]

-- not declared next to `tupletAt`: the `decide` inside `tupletList` is elaborated with the classical instance
instance tupletAt.decidable (ds : List Nat) (p : Nat) : Decidable (tupletAt ds p) := by
  unfold tupletAt; infer_instance

/-- the rows of kind i of the small table are the constellations of that kind that start below 7
    (first member, last member) -/
theorem smallRows_eq : ∀ i < 6,
    (Gen.psSmallPrimes.filter (fun r => r.2.2.1 = i)).map (fun r => (r.1, r.2.1)) =
      (pats i).flatMap (fun ds =>
        ((List.range 7).filter (fun p => tupletAt ds p)).map (fun p => (p, p + span ds))) := by
  decide +kernel

open Classical in
theorem smallRows_count (start stop : Nat) {i : Nat} (hi : i < 6) :
    ((pats i).map (fun ds => countIn (fun p => p + span ds ≤ stop ∧ tupletAt ds p) start 6)).sum =
      (Gen.psSmallPrimes.filter (fun r => r.2.2.1 = i ∧ r.1 ≥ start ∧ r.2.1 ≤ stop)).length := by
  have hrow : ∀ ds, countIn (fun p => p + span ds ≤ stop ∧ tupletAt ds p) start 6 =
      (((List.range 7).filter (fun p => tupletAt ds p)).map (fun p => (p, p + span ds))).countP
        (fun ab => decide (start ≤ ab.1 ∧ ab.2 ≤ stop)) := by
    intro ds
    rw [countIn_guard, countIn, ← List.countP_eq_length_filter, List.countP_map, List.countP_filter,
      List.range_eq_range']
    apply List.countP_congr
    intro p _
    simp only [Function.comp_def, Bool.and_eq_true, decide_eq_true_eq, and_assoc]
  simp only [hrow]
  rw [← List.countP_eq_length_filter, ← Function.comp_def (List.countP _), ← List.countP_flatMap,
    ← smallRows_eq i hi, List.countP_map, List.countP_filter]
  apply List.countP_congr
  intro r _
  simp only [Function.comp_def, Bool.and_eq_true, decide_eq_true_eq, ge_iff_le]
  exact ⟨fun h => ⟨h.2, h.1⟩, fun h => ⟨h.2, h.1⟩⟩

theorem smallRows_first_le : ∀ r ∈ Gen.psSmallPrimes, r.1 ≤ 5 := by decide

theorem smallCounts_spec (start stop flags i : Nat) (hi : i < 6) (hf : isFlag flags (2 ^ i) = true) :
    (if start ≤ 5 then smallCounts start stop flags else List.replicate 6 0).getD i 0 =
      ((pats i).map (fun ds => countIn (fun p => p + span ds ≤ stop ∧ tupletAt ds p) start 6)).sum := by
  rw [smallRows_count start stop hi]
  split
  · rw [smallCounts, getD_map_range _ hi]
    simp only [hf, and_true]
  · rename_i hs
    rw [getD_replicate_zero, eq_comm, List.length_eq_zero_iff, List.filter_eq_nil_iff]
    intro r hr
    have := smallRows_first_le r hr
    rw [decide_eq_true_eq]
    omega

/-- splitting a count at the 6 | 7 seam between the small-prime table and the sieve -/
theorem countIn_split6 {P : Nat → Prop} {start stop : Nat} (hP : ∀ x, P x → x ≤ stop) :
    countIn P start stop = countIn P start 6 + countIn P (max start 7) stop := by
  by_cases h7 : 7 ≤ start
  · rw [countIn_empty P (show 6 < start by omega), Nat.max_eq_left h7]; omega
  · have hm : max start 7 = 7 := by omega
    rw [hm]
    by_cases h6 : 6 ≤ stop
    · exact (countIn_split P (by omega) h6).symm
    · rw [countIn_empty P (show stop < 7 by omega)]
      by_cases hs : start ≤ stop + 1
      · rw [← countIn_split P hs (show stop ≤ 6 by omega),
          countIn_zero (P := P) (lo := stop + 1) (hi := 6) (fun x h1 _ hx => by have := hP x hx; omega)]
        omega
      · rw [countIn_empty P (show stop < start by omega),
          countIn_zero (P := P) (lo := start) (hi := 6) (fun x h1 _ hx => by have := hP x hx; omega)]

theorem not_prime_zero' : ¬ Nat.Prime 0 := Nat.not_prime_zero

theorem getD_zipWith_add (a b : List Nat) (i : Nat) (ha : i < a.length) (hb : i < b.length) :
    (List.zipWith (· + ·) a b).getD i 0 = a.getD i 0 + b.getD i 0 := by
  simp [List.getD_eq_getElem?_getD, List.getElem?_zipWith, List.getElem?_eq_getElem ha,
    List.getElem?_eq_getElem hb]

theorem smallCounts_length (start stop flags : Nat) : (smallCounts start stop flags).length = 6 := by
  simp [smallCounts]

theorem sieveCounts_length (isP : Nat → Bool) (start stop flags : Nat) :
    (sieveCounts isP start stop flags).length = 6 := by
  unfold sieveCounts; split <;> simp

theorem primeSieveCounts_spec {isP : Nat → Bool} (hP : ∀ n, isP n = true ↔ n.Prime)
    (start stop flags i : Nat) (hi : i < 6) (hf : isFlag flags (2 ^ i) = true) :
    (primeSieveCounts isP start stop flags).getD i 0 = kindCount i start stop := by
  unfold primeSieveCounts
  split
  · rename_i h
    rw [getD_replicate_zero, kindCount_empty i h]
  · simp only
    have hbig : (if stop ≥ 7 then sieveCounts isP start stop flags else List.replicate 6 0).getD i 0 =
        kindCount i (max start 7) stop := by
      split
      · exact sieveCounts_spec hP start stop flags i hi hf
      · rw [getD_replicate_zero, kindCount_empty]; omega
    rw [getD_zipWith_add _ _ _ (by split <;> simp [smallCounts_length, hi])
      (by split <;> simp [sieveCounts_length, hi]), smallCounts_spec start stop flags i hi hf, hbig,
      kindCount, kindCount, ← sum_map_add]
    congr 1
    apply List.map_congr_left
    intro ds _
    exact (countIn_split6 (fun x h => by omega)).symm

theorem primeSieveCounts_length (isP : Nat → Bool) (start stop flags : Nat) :
    (primeSieveCounts isP start stop flags).length = 6 := by
  unfold primeSieveCounts
  split
  · simp
  · simp only [List.length_zipWith]
    split <;> split <;> simp [smallCounts_length, sieveCounts_length]

theorem foldl_counts {n : Nat} (f : Nat × Nat → Counts) (hf : ∀ p, (f p).length = n) (l : List (Nat × Nat))
    (acc : Counts) (hacc : acc.length = n) (i : Nat) (hi : i < n) :
    (l.foldl (fun acc p => List.zipWith (· + ·) acc (f p)) acc).length = n ∧
    (l.foldl (fun acc p => List.zipWith (· + ·) acc (f p)) acc).getD i 0 =
      acc.getD i 0 + (l.map (fun p => (f p).getD i 0)).sum := by
  induction l generalizing acc with
  | nil => simp [hacc]
  | cons p l ih =>
    simp only [List.foldl_cons, List.map_cons, List.sum_cons]
    have hl : (List.zipWith (· + ·) acc (f p)).length = n := by simp [hacc, hf p]
    obtain ⟨h1, h2⟩ := ih _ hl
    refine ⟨h1, ?_⟩
    rw [h2, getD_zipWith_add _ _ _ (by omega) (by rw [hf p]; exact hi)]
    omega

/-- the counters summed over the pieces of ANY piece length td ≥ 30
    (the `hnw` side condition: `align(start + td·k) + 1` does not wrap, see `piece_eq_pieceN`) -/
theorem piecesCounts_spec {isP : Nat → Bool} (hP : ∀ n, isP n = true ↔ n.Prime)
    {start stop td : Nat} (flags i : Nat) (hi : i < 6) (hf : isFlag flags (2 ^ i) = true)
    (hle : start ≤ stop) (hs : stop ≤ umax) (htd : 30 ≤ td)
    (hnw : ∀ k, k < numPieces start stop td → stop < umax ∨ start + td * k + 32 < stop ∨ k = 0) :
    ((pieces start stop td).foldl
      (fun acc p => List.zipWith (· + ·) acc (primeSieveCounts isP p.1 p.2 flags))
      (List.replicate 6 0)).getD i 0 = kindCount i start stop := by
  have hpieces : pieces start stop td = (List.range (numPieces start stop td)).map (pieceN start stop td) := by
    unfold pieces
    apply List.map_congr_left
    intro k hk
    exact piece_eq_pieceN hle hs (by omega) (List.mem_range.1 hk) (hnw k (List.mem_range.1 hk))
  obtain ⟨_, h2⟩ := foldl_counts (fun p => primeSieveCounts isP p.1 p.2 flags)
    (fun p => primeSieveCounts_length isP p.1 p.2 flags)
    ((List.range (numPieces start stop td)).map (pieceN start stop td)) (List.replicate 6 0) (by simp) i hi
  rw [hpieces, h2, getD_replicate_zero, Nat.zero_add, List.map_map,
    ← sum_pieceN (kindCount i) hle htd (fun _ _ hb hb32 => kindCount_split hi hb hb32)
      (fun b => kindCount_empty i (Nat.lt_succ_self b))]
  congr 1
  apply List.map_congr_left
  intro k _
  exact primeSieveCounts_spec hP _ _ flags i hi hf

theorem parallelCounts_spec {isP : Nat → Bool} (hP : ∀ n, isP n = true ↔ n.Prime)
    (start stop flags numThreads minDist i : Nat) (hi : i < 6) (hf : isFlag flags (2 ^ i) = true)
    (hs : stop ≤ umax)
    (hnw : ∀ k, k < numPieces start stop
        (getThreadDistance start stop (idealNumThreads start stop numThreads minDist) minDist) →
      stop < umax ∨ start + getThreadDistance start stop (idealNumThreads start stop numThreads minDist) minDist * k
        + 32 < stop ∨ k = 0) :
    (parallelCounts isP start stop flags numThreads minDist).getD i 0 = kindCount i start stop := by
  unfold parallelCounts
  split
  · rename_i h
    rw [getD_replicate_zero, kindCount_empty i h]
  · rename_i h
    simp only
    split
    · exact primeSieveCounts_spec hP start stop flags i hi hf
    · exact piecesCounts_spec hP flags i hi hf (Nat.le_of_not_lt h) hs
        (getThreadDistance_shape start stop (idealNumThreads start stop numThreads minDist) minDist).2 hnw

theorem primesIn_split6 (start stop : Nat) :
    primesIn start stop = primesIn start (min stop 6) ++ primesIn (max start 7) stop := by
  unfold primesIn
  by_cases h : stop ≤ 6
  · rw [Nat.min_eq_left h, primesHO_nil_of_le (a := max start 7) (by omega), List.append_nil]
  · rw [Nat.min_eq_right (by omega)]
    by_cases hs : start ≤ 7
    · rw [Nat.max_eq_right hs, primesHO_append hs (by omega)]
    · rw [Nat.max_eq_left (by omega), primesHO_nil_of_le (p := 6 + 1) (by omega), List.nil_append]

theorem printedRows_last_le : ∀ r ∈ Gen.psSmallPrimes, isFlag 64 (64 * 2 ^ r.2.2.1) = true → r.2.1 ≤ 6 := by
  decide

/-- PRINT_PRIMES prints no table row that ends above 6 -/
theorem smallLines_min (start stop : Nat) : smallLines start stop 64 = smallLines start (min stop 6) 64 := by
  unfold smallLines
  congr 1
  apply List.filter_congr
  intro r hr
  have hle := printedRows_last_le r hr
  rw [decide_eq_decide]
  exact ⟨fun ⟨h1, h2, h3⟩ => ⟨h1, by have := hle h3; omega, h3⟩, fun ⟨h1, h2, h3⟩ => ⟨h1, by omega, h3⟩⟩

/-- on the 49 intervals inside [0, 6] the table rows printed are the primes (6 is not one, which is
    why the table is consulted for start ≤ 5 only) -/
theorem smallLines_fin : ∀ start ≤ 6, ∀ stop ≤ 6,
    (if start ≤ 5 then smallLines start stop 64 else []) = (primesIn start stop).map toString := by
  decide +kernel

theorem smallLines_primes (start stop : Nat) :
    (if start ≤ 5 then smallLines start stop 64 else []) = (primesIn start (min stop 6)).map toString := by
  by_cases hs : start ≤ 6
  · rw [smallLines_min]
    exact smallLines_fin start hs _ (Nat.min_le_right _ _)
  · rw [if_neg (by omega), primesIn, primesHO_nil_of_le (by omega)]; rfl

/-- PRINT_TWINS … PRINT_SEXTUPLETS = 64 << kind select printkTuplets for that kind -/
theorem printFlags : ∀ kind < 6, 1 ≤ kind →
    isFlag (64 * 2 ^ kind) 64 = false ∧ printKind (64 * 2 ^ kind) = kind := by
  decide

end Ps
